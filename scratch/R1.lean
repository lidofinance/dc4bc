import Dc4bcVerif.Props.C13Fsm
namespace Dc4bcVerif.Props.C13Fsm
open Dc4bcVerif.Model Dc4bcVerif.Gen Dc4bcVerif.Props

theorem received_reapply' (ph : DkgPhase) (hph : phaseAwait ph.eOk = some ph.await) : Reapply dkgMachine ph.eOk := by
  intro a cur p hok
  rcases ph.run_ok a with h | ⟨pid, data, ts, upd, _, h⟩
  · exact (never_ok .dkg _ _ ph.cb_ok a (fun p => h _ p) hok).elim
  · refine dkg_answer_reapply _ _ ph.cb_ok _ hph a pid (fun p => ?_) cur p hok
    rw [h]
    fun_cases dkgReceived p pid ts data.isEmpty ph.await ph.ok upd
    case case5 dc hd part hg hst _ _ =>
      exact fun _ => ⟨dc, part, hd, hg, by simpa using hst, .inl (QDkg_setAt hg rfl ph.statuses.1.symm)⟩
    all_goals exact nofun

end Dc4bcVerif.Props.C13Fsm
