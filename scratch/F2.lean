import Dc4bcVerif.Props.C05
import Dc4bcVerif.Lemmas.Reapply
open Dc4bcVerif.Gen Dc4bcVerif.Model Dc4bcVerif.Props
example : sDealsAwait ∈ reach1 dkgMachine sSigCollected ∧ C05.rank sDealsAwait = C05.rank sSigCollected + 2 := by decide
