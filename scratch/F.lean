import Dc4bcVerif.Props.C18Fsm
import Dc4bcVerif.Props.C02Fsm
open Dc4bcVerif.Gen Dc4bcVerif.Model Dc4bcVerif.Props
example : ∀ s, C18Fsm.signActive s = (signFamily s && s != sMKCollected) := by intro s; cases s <;> decide
example : ∀ s, C18Fsm.dkgCanc s = (cancelledSt s && owner s != .sig) := by intro s; cases s <;> decide
example : sCommitsNext = sDealsAwait := rfl
example : sDealsNext = sResponsesAwait := rfl
example : sResponsesNext = sMKAwait := rfl
example : C05.signingReady = signFamily := rfl
