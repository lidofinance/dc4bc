import Dc4bcVerif.Props.C06
namespace Dc4bcVerif.Props.C06
open Dc4bcVerif.Gen Dc4bcVerif.Model
theorem signerr_outcome_w (p : Payload) (a : Arg) (sc : SignConf) (hsign0 : p.sign = some sc) (hcl0 : cntSt sc 1 < p.threshold)
    (hok : (doEvent signMachine runAction sAWAIT p eSIGNERR a).res = .ok) :
    let out := doEvent signMachine runAction sAWAIT p eSIGNERR a
    let n : Int := sc.quorum.length
    (expired sc ∧ out.state = sCANCTO) ∨
    (¬ expired sc ∧ cntSt sc 2 + 1 > n - p.threshold ∧ out.state = sCANCERR) ∨
    (¬ expired sc ∧ cntSt sc 2 + 1 ≤ n - p.threshold ∧ out.state = sAWAIT ∧
      ∃ sc', AwaitInv out.payload sc' ∧ cntSt sc' 1 = cntSt sc 1 ∧ cntSt sc' 2 = cntSt sc 2 + 1 ∧
        sc'.batchId = sc.batchId) := by
  obtain ⟨hok', hr⟩ := ok_validated (sign_do_signerr p a) rfl hok
  rw [hr]
  obtain ⟨pid, err, ts, sc0, part, sg, ha, hs', hsg, hg, hst, hp⟩ := (sign_signerr_spec p a).2.2.2 hok'
  cases hsign0.symm.trans hs'
  obtain ⟨hc1, hc2, hcase⟩ := answer_outcome p sc _ a pid part _ hg hst (by rw [hp]) (by rw [hp])
  simp only [↓reduceIte, Nat.reduceEqDiff, Int.add_zero] at hc1 hc2
  have hcl := hcl0
  rcases hcase with ⟨he, h'⟩ | ⟨he, hf', h'⟩ | ⟨he, hf', _, h', hinv'⟩ | ⟨_, _, hc, _⟩
  · exact Or.inl ⟨he, h'⟩
  · exact Or.inr (Or.inl ⟨he, by omega, h'⟩)
  · exact Or.inr (Or.inr ⟨he, by omega, h', _, hinv', hc1, hc2, rfl⟩)
  · omega


end Dc4bcVerif.Props.C06
