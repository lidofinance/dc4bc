import Dc4bcVerif.Props.C13Fsm
namespace Dc4bcVerif.Props.C13Fsm
open Dc4bcVerif.Model Dc4bcVerif.Gen Dc4bcVerif.Props

theorem dkg_validators_keep' {e : Ev} {awaitSt : Nat} (hph : phaseAwait e = some awaitSt) (pid : Int) (a : Arg) :
    ∀ ev vid, (ev, some vid) ∈ autoAfter dkgMachine e → ∀ p, QDkg awaitSt pid p → QDkg awaitSt pid (runAction vid ev p a).payload := by
  intro ev vid hmem p hq
  obtain ⟨ws, hws, hw⟩ := validators_avoid e (Ev.mem_all e) awaitSt hph _ hmem
  have hws : validatorWrites vid = some ws := hws
  match vid, hws with
  | .dkg_actionValidateDkgProposalAwaitCommits, rfl =>
    exact dkgValidate_keeps awaitSt pid p _ _ 3 _ _ _ _ (fun h => hw (by simp [h])) hq
  | .dkg_actionValidateDkgProposalAwaitDeals, rfl =>
    exact dkgValidate_keeps awaitSt pid p _ _ 6 _ _ _ _ (fun h => hw (by simp [h])) hq
  | .dkg_actionValidateDkgProposalAwaitResponses, rfl =>
    exact dkgValidate_keeps awaitSt pid p _ _ 9 _ _ _ _ (fun h => hw (by simp [h])) hq
  | .dkg_actionValidateDkgProposalAwaitMasterKey, rfl =>
    exact mkValidate_keeps awaitSt pid p ev a (fun h => hw (by simp [h])) (fun h => hw (by simp [h])) hq
end Dc4bcVerif.Props.C13Fsm
