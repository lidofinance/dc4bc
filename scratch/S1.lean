import Dc4bcVerif.Lemmas.SigPhase
namespace Dc4bcVerif.Model
open Dc4bcVerif.Gen

theorem sigAfter_cases' (o : AOut) (a : Arg) (sc : SigConf) (hs : o.payload.sig = some sc) :
    let out := sigAfter o a
    out.payload = o.payload ∧
    ((sc.expiresAt < sc.updatedAt ∧ out.state = sSigCancTo) ∨
     (¬ sc.expiresAt < sc.updatedAt ∧ sc.quorum.any (·.status == 2) = true ∧ out.state = sSigCancP) ∨
     (¬ sc.expiresAt < sc.updatedAt ∧ sc.quorum.any (·.status == 2) = false ∧ cntSig sc 1 < sc.quorum.length ∧
      out.state = sSigAwait) ∨
     (¬ sc.expiresAt < sc.updatedAt ∧ sc.quorum.any (·.status == 2) = false ∧ ¬ cntSig sc 1 < sc.quorum.length ∧
      out.state = sSigCollected)) := by
  unfold sigAfter
  fun_cases sig_actionValidateSignatureProposal eSigVal o.payload a
  case case1 hn => rw [hs] at hn; cases hn
  case case2 sc' hs' h1 =>
    cases hs.symm.trans hs'
    rw [aOk, autoTail_ok (ev := some eSigTo) sig_set_to]; exact ⟨rfl, .inl ⟨h1, rfl⟩⟩
  case case3 sc' hs' h1 _ h2 =>
    cases hs.symm.trans hs'
    rw [aOk, autoTail_ok (ev := some eSigCancP) sig_set_cancp]; exact ⟨rfl, .inr (.inl ⟨h1, h2, rfl⟩)⟩
  case case4 sc' hs' h1 _ _ h2 h3 =>
    cases hs.symm.trans hs'
    rw [aOk, autoTail_ok (ev := none) sig_set_val]
    exact ⟨rfl, .inr (.inr (.inl ⟨h1, Bool.not_eq_true _ ▸ h2, Int.sub_pos.mp h3, rfl⟩))⟩
  case case5 sc' hs' h1 _ _ h2 h3 _ =>
    cases hs.symm.trans hs'
    rw [aOk, autoTail_ok (ev := some eSigDone) sig_set_done]
    exact ⟨rfl, .inr (.inr (.inr ⟨h1, Bool.not_eq_true _ ▸ h2, fun h => h3 (Int.sub_pos.mpr h), rfl⟩))⟩

end Dc4bcVerif.Model
