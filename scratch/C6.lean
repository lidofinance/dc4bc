import Dc4bcVerif.Props.C06
namespace Dc4bcVerif.Props.C06
open Dc4bcVerif.Gen Dc4bcVerif.Model

/-- the validator accepts only a payload that carries signing data -/
theorem signAfter_ok_sign {o : AOut} {a : Arg} (hok : (signAfterValidate o a).res = .ok) : ∃ sc, o.payload.sign = some sc := by
  cases hs : o.payload.sign with
  | some sc => exact ⟨sc, rfl⟩
  | none =>
    unfold signAfterValidate sign_actionValidateSigningPartialSignsAwaitConfirmations at hok
    rw [hs] at hok
    cases hok

theorem validated_await_inv' {out x : Out} {o : AOut} {a : Arg}
    (hdo : out = if o.res != .ok then x else signAfterValidate o a) (hx : x.res = o.res) (hok : out.res = .ok)
    (hst : out.state = sAWAIT) : ∃ sc, AwaitInv out.payload sc := by
  obtain ⟨-, rfl⟩ := ok_validated hdo hx hok
  obtain ⟨sc, hs⟩ := signAfter_ok_sign hok
  exact ⟨sc, signAfter_await_inv o a sc hs hst⟩

theorem awaitInv_do' (s : St) (p : Payload) (e : Ev) (a : Arg)
    (hok : (doEvent (machineOf (owner s)) runAction s p e a).res = .ok)
    (hst : (doEvent (machineOf (owner s)) runAction s p e a).state = sAWAIT) :
    ∃ sc, AwaitInv (doEvent (machineOf (owner s)) runAction s p e a).payload sc := by
  have he := doEvent_ok_public hok
  by_cases hA : s = sAWAIT
  · subst hA
    obtain rfl | rfl : e = eRECEIVED ∨ e = eSIGNERR := by simpa [owner, machineOf, sign_await_public] using he
    · exact validated_await_inv' (sign_do_received p a) rfl hok hst
    · exact validated_await_inv' (sign_do_signerr p a) rfl hok hst
  by_cases hI : s = sIDLE
  · subst hI
    obtain rfl : e = eSTART := by simpa [owner, machineOf, sign_idle_public] using he
    exact validated_await_inv' (sign_do_start p a) rfl hok hst
  · exact absurd (hst ▸ (doEvent_ok_reach _ runAction s p e a (no_before_auto _ s) hok).2)
      (await_unreachable_elsewhere s (St.mem_all s) hI hA)

end Dc4bcVerif.Props.C06
