import Dc4bcVerif.Lemmas.MasterKeyPhase
namespace Dc4bcVerif.Model
open Dc4bcVerif.Gen
theorem mk_received_outcome_w (p : Payload) (a : Arg) (dc : DkgConf) (hdkg : p.dkg = some dc) (hall : allIn dc 9 10) (hopen0 : cntDkg dc 10 < dc.quorum.length)
    (hok : (doEvent dkgMachine runAction sMKAwait p eMKOk a).res = .ok) :
    let out := doEvent dkgMachine runAction sMKAwait p eMKOk a
    ∃ pid key ts poly part, a = .masterKey pid key ts poly ∧ getAt dc.quorum pid = some part ∧ part.status = 9 ∧
    ((dc.pubPolyBz ≠ [] ∧ dc.pubPolyBz ≠ poly ∧ out.state = sMKCancErr) ∨
     ((dc.pubPolyBz = [] ∨ dc.pubPolyBz = poly) ∧
      ((dc.expiresAt < ts ∧ out.state = sMKCancTo) ∨
       (¬ dc.expiresAt < ts ∧ (∃ q ∈ dc.quorum, q.status = 10 ∧ q.masterKey ≠ key) ∧ out.state = sMKCancErr) ∨
       (¬ dc.expiresAt < ts ∧ (∀ q ∈ dc.quorum, q.status = 10 → q.masterKey = key) ∧
        ((cntDkg dc 10 + 1 = dc.quorum.length ∧ out.state = sMKCollected ∧
            ∃ dc', out.payload.dkg = some dc' ∧ dc'.pubPolyBz = poly ∧ dc'.quorum.length = dc.quorum.length ∧
              ∀ q ∈ dc'.quorum, q.status = 10 ∧ q.masterKey = key) ∨
         (cntDkg dc 10 + 1 < dc.quorum.length ∧ out.state = sMKAwait ∧
            ∃ dc', MKInv out.payload dc' ∧ dc'.pubPolyBz = poly ∧ cntDkg dc' 10 = cntDkg dc 10 + 1 ∧
              dc'.quorum.length = dc.quorum.length)))))) := by
  obtain ⟨hres, hdo⟩ := doEvent_std_ok mk_lookup_ok rfl (no_before_auto .dkg sMKAwait) mk_cb_ok hok
  intro out
  have hout : out = _ := hdo
  clear_value out
  rcases mkReceived_cases eMKOk p a with
    h | ⟨_, h⟩ | ⟨pid, key, ts, poly, dc0, part, ha, hd0, hg, hst, ⟨hp1, hp2, h⟩ | ⟨hpoly, h⟩⟩ <;>
    rw [show runAction .dkg_actionMasterKeyConfirmationReceived eMKOk p a = _ from h] at hres hout
  · cases hres
  · cases hres
  all_goals (rw [hdkg] at hd0; cases hd0; refine ⟨pid, key, ts, poly, part, ha, hg, hst, ?_⟩)
  · -- a polynomial other than the one announced before: cancelled by the callback itself
    refine .inl ⟨hp1, hp2, ?_⟩
    rw [hout]
    exact congrArg DoOut.state (doTrAfter_plain (s1 := sMKCancErr) (by exact mk_set_errint) mk_auto_cancerr)
  refine .inr ⟨hpoly, ?_⟩
  generalize hpart' : ({ part with masterKey := key, status := 10, updatedAt := ts } : DkgPart) = part' at hout
  generalize hdc' : ({ dc with quorum := setAt dc.quorum pid part', updatedAt := ts, pubPolyBz := poly } : DkgConf) = dc' at hout
  have hst' : part'.status = 10 := by rw [← hpart']
  have hkey' : part'.masterKey = key := by rw [← hpart']
  have hq' : dc'.quorum = setAt dc.quorum pid part' := by rw [← hdc']
  obtain ⟨hlen, hc', hall'⟩ : dc'.quorum.length = dc.quorum.length ∧ cntDkg dc' 10 = cntDkg dc 10 + 1 ∧
      allIn dc' 9 10 := by
    unfold cntDkg allIn
    rw [hq']
    exact quorum_step DkgPart.status hg (by decide) hst hst' hall
  -- agreement of keys after the update
  have hagree : keysAgree dc' ↔ ∀ q ∈ dc.quorum, q.status = 10 → q.masterKey = key := by
    unfold keysAgree
    rw [hq']
    constructor
    · intro hk q hq hs
      have hne : q ≠ part := by intro e; rw [e, hst] at hs; cases hs
      exact (hk q (mem_setAt_of_ne hg hq hne) part' (mem_setAt_self hg) hs hst').trans hkey'
    · intro hk q hq q' hq' hs hs'
      have key_of : ∀ x ∈ setAt dc.quorum pid part', x.status = 10 → x.masterKey = key := by
        intro x hx hxs
        rcases mem_setAt hx with h1 | h1
        · exact hk x h1 hxs
        · rw [h1]; exact hkey'
      rw [key_of q hq hs, key_of q' hq' hs']
  replace hout := hout.trans (mk_after _ _ _ _ _ (by exact setState_of_lookup mk_lookup_ok))
  have hcases := mkAfter_cases (aOk { p with dkg := some dc' }) a dc' rfl (allIn_any_false hall' (by decide) (by decide))
  have hexp : (dc'.expiresAt < dc'.updatedAt) ↔ (dc.expiresAt < ts) := by rw [← hdc']
  have hpub : dc'.pubPolyBz = poly := by rw [← hdc']
  have hmT : mkMismatchCond dc' = true ↔ ¬ ∀ q ∈ dc.quorum, q.status = 10 → q.masterKey = key := by
    rw [mkMismatchCond_iff, hagree]
  have hmF : mkMismatchCond dc' = false ↔ ∀ q ∈ dc.quorum, q.status = 10 → q.masterKey = key := by
    rw [← Bool.not_eq_true, hmT, Classical.not_not]
  rw [← hout, hc', hlen, hexp, hmT, hmF] at hcases
  rcases hcases with ⟨he, hs⟩ | ⟨he, hk, hs⟩ | ⟨he, hk, h3, hs, hp⟩ | ⟨he, hk, h3, hs, hp⟩
  · exact .inl ⟨he, hs⟩
  · refine .inr (.inl ⟨he, ?_, hs⟩)
    exact Classical.byContradiction (fun hn => hk (fun q hq hs =>
      Classical.byContradiction (fun hne => hn ⟨q, hq, hs, hne⟩)))
  · exact .inr (.inr ⟨he, hk, .inr ⟨h3, hs, dc', hp ▸ ⟨rfl, hall', by rw [hc', hlen]; exact h3, hagree.mpr hk⟩, hpub, hc',
      hlen⟩⟩)
  · have hopen := hopen0
    refine .inr (.inr ⟨he, hk, .inl ⟨by omega, hs, { dc' with quorum := dc'.quorum.map (fun q => { q with status := 10 }) },
      by rw [hp], hpub, by simp [hlen], ?_⟩⟩)
    -- everybody has confirmed (count = n) and keys agree with `key`
    have hfull := quorum_full DkgPart.status (show cntDkg dc' 10 = _ by rw [hc', hlen]; omega)
    intro q hq
    obtain ⟨q0, hq0, rfl⟩ := List.mem_map.mp hq
    refine ⟨rfl, ?_⟩
    have hs0 := hfull q0 hq0
    rw [hq'] at hq0
    rcases mem_setAt hq0 with h1 | h1
    · exact hk q0 h1 hs0
    · rw [h1]; exact hkey'


end Dc4bcVerif.Model
