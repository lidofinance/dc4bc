import Dc4bcVerif.Lemmas.FsmEngine
namespace Dc4bcVerif.Model
open Dc4bcVerif.Gen
variable {P R A : Type} {m : MachineDesc} {act : ActionId → Ev → P → A → ActOut P R}

theorem mainCallback_blank {tr : Tr} {cur : St} {p : P} {a : A} {aid : ActionId} (hcb : callbackOf m tr.event = some aid) :
    mainCallback m act tr (noBefore cur p) a = act aid tr.event p a := by
  unfold mainCallback; rw [hcb]; rfl

theorem doTrAfter_auto' {tr : Tr} {cur : St} {p : P}
    {o : ActOut P R} {a : A} {s1 : St} {au : Tr} {vid : ActionId}
    (hs : setState m cur (o.outEvent.getD tr.event) = some s1)
    (hau : autoLookup m s1 2 = some au) (hcb : callbackOf m au.event = some vid) :
    doTrAfter m act tr (noBefore cur p) o a = autoTail m s1 au.event o (act vid au.event o.payload a) := by
  unfold doTrAfter autoTail
  simp only [noBefore, hs]
  rw [← mainCallback_blank (cur := s1) hcb]
  refine processAuto_cases (motive := fun a2 => DoOut.mk (some (some a2.state,
      if a2.executed then pickData a2.data o.data else o.data)) a2.res a2.state a2.payload = _) m act s1 o.payload 2 a
    (absent := fun h => by rw [hau] at h; cases h) ?_ ?_ ?_
  · intro au' r hau' v hr hv
    cases hau.symm.trans hau'
    cases r <;> simp_all
  · intro au' hau' v hv hs2
    cases hau.symm.trans hau'
    simp_all
  · intro au' s2 hau' v hv hs2
    cases hau.symm.trans hau'
    simp_all
end Dc4bcVerif.Model
