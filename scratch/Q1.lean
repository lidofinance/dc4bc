import Dc4bcVerif.Lemmas.Quorum
namespace Dc4bcVerif.Model

theorem filter_length_setAt' {α : Type} (f : α → Bool) (l : List α) (id : Int) (old new : α) (h : getAt l id = some old) :
    (((setAt l id new).filter f).length : Int) + (if f old then 1 else 0)
      = ((l.filter f).length : Int) + (if f new then 1 else 0) := by
  obtain ⟨h0, hg⟩ := getAt_some h
  obtain ⟨hlt, rfl⟩ := List.getElem?_eq_some_iff.mp hg
  -- `countP_set` subtracts in `Nat`: an `old` that counts is counted
  have hpos : f l[id.toNat] = true → 0 < l.countP f := fun h1 => List.countP_pos_iff.mpr ⟨_, List.getElem_mem hlt, h1⟩
  rw [setAt, if_neg (by omega), ← List.countP_eq_length_filter, ← List.countP_eq_length_filter, List.countP_set hlt]
  cases h1 : f l[id.toNat] <;> cases f new <;> simp <;> have := hpos h1 <;> omega

end Dc4bcVerif.Model
