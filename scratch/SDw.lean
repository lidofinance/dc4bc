import Dc4bcVerif.Lemmas.SigPhase
namespace Dc4bcVerif.Model
open Dc4bcVerif.Gen
theorem sig_decline_outcome_w (p : Payload) (a : Arg) (sc : SigConf) (hsig0 : p.sig = some sc)
    (hok : (doEvent sigMachine runAction sSigAwait p eSigDecline a).res = .ok) :
    (doEvent sigMachine runAction sSigAwait p eSigDecline a).state = sSigCancTo ∨
    (doEvent sigMachine runAction sSigAwait p eSigDecline a).state = sSigCancP := by
  obtain ⟨pid, ts, part, -, hg, hcase⟩ := sig_resp_outcome p eSigDecline a sc hsig0 sig_lookup_decline sig_cb_decline hok
  rcases hcase with h | ⟨-, st, ⟨he, _⟩ | ⟨_, rfl⟩, hdo⟩
  · exact .inl h
  · cases he
  rw [hdo]
  generalize hsc' : ({ sc with quorum := setAt sc.quorum pid { part with status := 2, updatedAt := ts }, updatedAt := ts } : SigConf) = sc'
  have hany : sc'.quorum.any (·.status == 2) = true := by
    rw [← hsc', List.any_eq_true]
    exact ⟨_, mem_setAt_self hg, rfl⟩
  rcases (sigAfter_cases (aOk { p with sig := some sc' }) a sc' rfl).2 with ⟨_, hs⟩ | ⟨_, _, hs⟩ | ⟨_, h2, _⟩ | ⟨_, h2, _⟩
  · exact .inl hs
  · exact .inr hs
  all_goals (rw [hany] at h2; cases h2)


end Dc4bcVerif.Model
