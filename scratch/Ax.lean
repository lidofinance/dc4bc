import Dc4bcVerif.Props.C13Fsm
import Dc4bcVerif.Props.C18Fsm
import Dc4bcVerif.Props.C02Fsm
#print axioms Dc4bcVerif.Props.C13Fsm.fsm_reapply
#print axioms Dc4bcVerif.Props.C13Fsm.instance_reapply
#print axioms Dc4bcVerif.Props.C18Fsm.never_panics
#print axioms Dc4bcVerif.Props.C06.await_invariant
#print axioms Dc4bcVerif.Props.C06.received_outcome
#print axioms Dc4bcVerif.Props.C02.retained_poly
#print axioms Dc4bcVerif.Model.sig_confirm_outcome
#print axioms Dc4bcVerif.Model.responses_received_outcome
