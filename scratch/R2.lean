import Dc4bcVerif.Props.C13Fsm
namespace Dc4bcVerif.Props.C13Fsm
open Dc4bcVerif.Model Dc4bcVerif.Gen Dc4bcVerif.Props

theorem mk_reapply' : Reapply dkgMachine .e_event_dkg_master_key_confirm_received := by
  intro a cur p hok
  cases a with
  | masterKey pid key ts poly =>
    refine dkg_answer_reapply _ .dkg_actionMasterKeyConfirmationReceived (by decide) 9 (by decide) _ pid (fun p => ?_) cur p hok
    simp only [runAction]
    fun_cases dkg_actionMasterKeyConfirmationReceived .e_event_dkg_master_key_confirm_received p (.masterKey pid key ts poly)
    case case5 dc hd part hg hst _ _ =>
      -- a differing polynomial: the round is cancelled
      exact fun _ => ⟨dc, part, hd, hg, by simpa using hst, .inr ⟨_, rfl, by decide⟩⟩
    case case6 dc hd part hg hst _ _ _ =>
      exact fun _ => ⟨dc, part, hd, hg, by simpa using hst, .inl (QDkg_setAt hg rfl (by simp))⟩
    all_goals exact nofun
  | _ => exact (never_ok .dkg _ .dkg_actionMasterKeyConfirmationReceived (by decide) _ (fun _ => rfl) hok).elim

end Dc4bcVerif.Props.C13Fsm
