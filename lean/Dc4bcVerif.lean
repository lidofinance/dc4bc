-- Root of the `Dc4bcVerif` library: generated tables, models, lemmas and every property theorem
-- (`lake build` checks all of them; the driver executable imports model modules only, never this root).
import Dc4bcVerif.Gen.AirGlue
import Dc4bcVerif.Gen.AirDkgOrder
import Dc4bcVerif.Gen.Baked
import Dc4bcVerif.Gen.Board
import Dc4bcVerif.Gen.Config
import Dc4bcVerif.Gen.Effects
import Dc4bcVerif.Gen.FsmTables
import Dc4bcVerif.Gen.Locks
import Dc4bcVerif.Gen.MoreFacts
import Dc4bcVerif.Gen.SeedFacts
import Dc4bcVerif.Gen.SecretUses
import Dc4bcVerif.Gen.MachineFacts
import Dc4bcVerif.Gen.NodeGlue
import Dc4bcVerif.Gen.RoundLock
import Dc4bcVerif.Gen.SszSchema
import Dc4bcVerif.Model.Actions
import Dc4bcVerif.Model.Air
import Dc4bcVerif.Model.Board
import Dc4bcVerif.Model.BoardLines
import Dc4bcVerif.Model.Crash
import Dc4bcVerif.Model.Fsm
import Dc4bcVerif.Model.Instance
import Dc4bcVerif.Model.Node
import Dc4bcVerif.Model.NodeOps
import Dc4bcVerif.Model.Payload
import Dc4bcVerif.Model.ReinitHash
import Dc4bcVerif.Model.Render
import Dc4bcVerif.Model.Run
import Dc4bcVerif.Model.Sched
import Dc4bcVerif.Model.Sha256
import Dc4bcVerif.Model.Shamir
import Dc4bcVerif.Model.AirDkg
import Dc4bcVerif.Model.AirReinit
import Dc4bcVerif.Model.Ssz
import Dc4bcVerif.Model.Sym
import Dc4bcVerif.Model.Tasks
import Dc4bcVerif.Lemmas.Assoc
import Dc4bcVerif.Lemmas.BakedLemmas
import Dc4bcVerif.Lemmas.Callbacks
import Dc4bcVerif.Lemmas.DkgPhases
import Dc4bcVerif.Lemmas.FsmEngine
import Dc4bcVerif.Lemmas.Idem
import Dc4bcVerif.Lemmas.AirDkgSteps
import Dc4bcVerif.Lemmas.AirDkgInv
import Dc4bcVerif.Lemmas.MasterKeyPhase
import Dc4bcVerif.Lemmas.NoPanic
import Dc4bcVerif.Lemmas.NodeLocal
import Dc4bcVerif.Lemmas.Pool
import Dc4bcVerif.Lemmas.NodeSteps
import Dc4bcVerif.Lemmas.NodeEvents
import Dc4bcVerif.Lemmas.Reapply
import Dc4bcVerif.Lemmas.Machines
import Dc4bcVerif.Lemmas.RoundStep
import Dc4bcVerif.Lemmas.Quorum
import Dc4bcVerif.Lemmas.SigPhase
import Dc4bcVerif.Lemmas.SigStoreIdem
import Dc4bcVerif.Lemmas.SignPhase
import Dc4bcVerif.Lemmas.SszLemmas
import Dc4bcVerif.Props.C01
import Dc4bcVerif.Props.C02
import Dc4bcVerif.Props.C02Fsm
import Dc4bcVerif.Props.C02Air
import Dc4bcVerif.Props.C03
import Dc4bcVerif.Props.C04
import Dc4bcVerif.Props.C05
import Dc4bcVerif.Props.C06
import Dc4bcVerif.Props.C07
import Dc4bcVerif.Props.C08
import Dc4bcVerif.Props.C09
import Dc4bcVerif.Props.C10
import Dc4bcVerif.Props.C11
import Dc4bcVerif.Props.C11Air
import Dc4bcVerif.Props.C11AirComplete
import Dc4bcVerif.Props.C04Air
import Dc4bcVerif.Props.AirDkgSrc
import Dc4bcVerif.Props.C12
import Dc4bcVerif.Props.C13
import Dc4bcVerif.Props.C13Clock
import Dc4bcVerif.Props.C13Fsm
import Dc4bcVerif.Props.C13Node
import Dc4bcVerif.Props.C13Reinit
import Dc4bcVerif.Props.C13Start
import Dc4bcVerif.Props.C14
import Dc4bcVerif.Props.C14Rounds
import Dc4bcVerif.Props.C14Tick
import Dc4bcVerif.Props.C12Process
import Dc4bcVerif.Props.C12Air
import Dc4bcVerif.Props.C12AirOrder
import Dc4bcVerif.Props.C12Seed
import Dc4bcVerif.Props.C04Src
import Dc4bcVerif.Props.C08Poll
import Dc4bcVerif.Props.C19Mem
import Dc4bcVerif.Props.C16Src
import Dc4bcVerif.Props.C18ReinitReject
import Dc4bcVerif.Props.C15
import Dc4bcVerif.Props.C15Conc
import Dc4bcVerif.Props.C16
import Dc4bcVerif.Props.C16Lines
import Dc4bcVerif.Props.C17
import Dc4bcVerif.Props.C18
import Dc4bcVerif.Props.C18Air
import Dc4bcVerif.Props.C18Fsm
import Dc4bcVerif.Props.C18Node
import Dc4bcVerif.Props.C18Reinit
import Dc4bcVerif.Props.C19
import Dc4bcVerif.Props.C19Store
import Dc4bcVerif.Props.C20
import Dc4bcVerif.Props.C20Node
import Dc4bcVerif.Props.C20Air
import Dc4bcVerif.Props.C20AirMasterKey
import Dc4bcVerif.Props.C20AirOrder
import Dc4bcVerif.Props.C12AirReinit
import Dc4bcVerif.Props.SrcFacts
