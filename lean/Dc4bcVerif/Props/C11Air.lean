/-
  C11 at the airgapped machine — over `Model/AirDkg.lean`, the model of the machine's key-generation handlers
  that `airdkg` (a stream of the algdiff run) compares with the real machine on every operation.

  * `Acceptable`: what the addressee's check amounts to: the deal names a participant, its signature verifies, it
    opens, it is meant for this machine, its threshold is admissible, **its share lies on the commitments it
    carries and those commitments are exactly the ones its dealer broadcast** (same length, coefficient by
    coefficient).
  * `processDeals_ok` / `responses_ok_all_acceptable`: if the machine answers the deals step with its responses
    (no error), then EVERY deal stored for another participant is acceptable — for every instance the machine can be
    in, every payload, every order in which Go ranges over the stored deals. Contrapositive
    (`unacceptable_deal_refused`): one unacceptable deal among them and the answer is the error report, in any order.
  * `refused_saves_no_share`: a refusal of the deals step writes no key ring.
  * `share_only_from_master_key_step`: the only handler that writes a key ring is the master-key step.
-/
import Dc4bcVerif.Props.C12AirOrder

-- every statement carries all instance binders of the `variable` line, whether it uses them or not
set_option linter.unusedSectionVars false

namespace Dc4bcVerif.Props.C11Air
open Dc4bcVerif.Model.Shamir Dc4bcVerif.Model.AirDkg Dc4bcVerif.Props.C12AirOrder
open Dc4bcVerif.Lemmas.AirDkgSteps

variable {F : Type} [Add F] [Mul F] [Sub F] [Div F] [Zero F] [One F] [DecidableEq F] [NatCast F]
variable {K : Type} [DecidableEq K]

/-- the addressee's check, as a property of the deal and of what the machine holds (keys, own index, broadcast commitments) -/
def Acceptable (i : Inst F K) (od : OuterDeal F) : Prop :=
  od.idx < i.keys.length ∧ od.sigOk = true ∧
  ∃ d, od.inner = some d ∧ d.secI = i.pid ∧ validT d.thr i.keys.length = true ∧
    evalPoly d.commits (node d.secI) = d.secV ∧
    ∃ e, i.keys[od.idx]? = some e ∧ lookup e.1 i.commits = some d.commits

/-- what `ProcessDeals` reads and never writes -/
def SameFrame (i j : Inst F K) : Prop :=
  j.pid = i.pid ∧ j.keys = i.keys ∧ j.commits = i.commits ∧ j.deals = i.deals

theorem SameFrame.refl (i : Inst F K) : SameFrame i i := ⟨rfl, rfl, rfl, rfl⟩

theorem SameFrame.trans {a b c : Inst F K} (h1 : SameFrame a b) (h2 : SameFrame b c) : SameFrame a c :=
  ⟨h2.1.trans h1.1, h2.2.1.trans h1.2.1, h2.2.2.1.trans h1.2.2.1, h2.2.2.2.trans h1.2.2.2⟩

theorem dkgProcessDeal_frame (i : Inst F K) (od : OuterDeal F) : SameFrame i (dkgProcessDeal i od).1 := by
  obtain ⟨_, h⟩ := dkgProcessDeal_fst i od
  rw [h]
  exact SameFrame.refl i

theorem dealCommitsOk_iff {i : Inst F K} {od : OuterDeal F} :
    dealCommitsOk i od = true ↔ ∃ d e, od.inner = some d ∧ i.keys[od.idx]? = some e ∧ lookup e.1 i.commits = some d.commits := by
  unfold dealCommitsOk
  cases od.inner with
  | none => simp
  | some d =>
    cases i.keys[od.idx]? with
    | none => simp
    | some e =>
      cases hl : lookup e.1 i.commits with
      | none => simp [hl]
      | some bc => simp [hl, eq_comm]

theorem acceptable_of_frame {i j : Inst F K} (hf : SameFrame i j) {od : OuterDeal F} (h : Acceptable j od) : Acceptable i od := by
  obtain ⟨hp, hk, hc, _⟩ := hf
  unfold Acceptable at *
  rw [hp, hk, hc] at h
  exact h

/-- One step of the loop goes through exactly for an acceptable deal that is the first the machine examines of its dealer. -/
theorem step1_isSome_iff {i : Inst F K} {od : OuterDeal F} :
    (∃ i', step1 i od = some i') ↔ i.pid < i.keys.length ∧ Acceptable i od ∧
      ∃ v, i.vers[od.idx]? = some v ∧ v.deal = none ∧ lookupN i.pid v.resp = none := by
  simp only [step1_eq_some, verStep_approves, dealCommitsOk_iff, Acceptable]
  constructor
  · rintro ⟨_, h1, h2, v, hv, ⟨d, hd, hI, hn, hr, ht, hlt, hs⟩, ⟨d', e, hd', he, hc⟩, -⟩
    rw [hd] at hd'; cases hd'
    exact ⟨hI ▸ hlt, ⟨h1, h2, d, hd, hI, ht, hs, e, he, hc⟩, v, hv, hn, hr⟩
  · rintro ⟨hp, ⟨h1, h2, d, hd, hI, ht, hs, e, he, hc⟩, v, hv, hn, hr⟩
    exact ⟨_, h1, h2, v, hv, ⟨d, hd, hI, hn, hr, ht, hI ▸ hp, hs⟩, ⟨d, e, hd, he, hc⟩, rfl⟩

theorem step1_frame {i i' : Inst F K} {od : OuterDeal F} (h : step1 i od = some i') : SameFrame i i' := by
  obtain ⟨_, rfl⟩ := step1_fst h
  exact SameFrame.refl i

theorem steps_acceptable (l : List (OuterDeal F)) : ∀ (i i' : Inst F K), steps i l = some i' →
    SameFrame i i' ∧ ∀ od ∈ l, Acceptable i od := by
  induction l with
  | nil => rintro i _ ⟨⟩; exact ⟨SameFrame.refl i, nofun⟩
  | cons od rest ih =>
    intro i i' h
    obtain ⟨i1, h1, h2⟩ := Option.bind_eq_some_iff.mp h
    obtain ⟨hf, hall⟩ := ih i1 i' h2
    refine ⟨(step1_frame h1).trans hf, fun od' hod' => ?_⟩
    rcases List.mem_cons.mp hod' with rfl | hin
    · exact (step1_isSome_iff.mp ⟨i1, h1⟩).2.1
    · exact acceptable_of_frame (step1_frame h1) (hall od' hin)

-- stated here and not in `Props/C12AirOrder.lean`: it is the only statement of that file that mentions `SameFrame`
theorem _root_.Dc4bcVerif.Props.C12AirOrder.loop_frame (ord : List String) : ∀ (i i' : Inst F K), loop i ord = some i' → SameFrame i i' := by
  intro i i' h
  rw [loop_eq_steps] at h
  exact (steps_acceptable _ i i' h).1

theorem processDeals_ok (ord : List String) : ∀ (i : Inst F K) (acc : List Nat) (i' : Inst F K) (ds : List Nat),
    processDeals i ord acc = (i', some ds) →
    SameFrame i i' ∧ ∀ name ∈ ord, ∀ od, lookup name i.deals = some od → od.idx ≠ i.pid → Acceptable i od := by
  intro i acc i' ds h
  have hl := ((processDeals_eq_some ord).mp h).1
  rw [loop_eq_steps] at hl
  obtain ⟨hf, hall⟩ := steps_acceptable _ i i' hl
  exact ⟨hf, fun name hn od hod hne => hall od (List.mem_filterMap.mpr ⟨name, hn, effective_eq_some.mpr ⟨hod, hne⟩⟩)⟩

theorem unacceptable_deal_refused (i : Inst F K) (ord : List String) (acc : List Nat) (name : String) (od : OuterDeal F)
    (hn : name ∈ ord) (hod : lookup name i.deals = some od) (hne : od.idx ≠ i.pid) (hbad : ¬ Acceptable i od) :
    (processDeals i ord acc).2 = none := by
  cases h : processDeals i ord acc with
  | mk i' r =>
    cases r with
    | none => rfl
    | some ds => exact absurd ((processDeals_ok ord i acc i' ds h).2 name hn od hod hne) hbad

/-- the instance the deals are checked in: the stored one after the payload's deals were filed -/
def filed (i : Inst F K) (entries : List (Int × String × Option (OuterDeal F))) : Inst F K := (storeDeals i entries).1

/-- The machine answered the deals step with responses: every deal it holds for another
participant (from this payload or an earlier one) and that the range visited was acceptable. -/
theorem responses_ok_all_acceptable (m : Machine F K) (round : String) (entries : List (Int × String × Option (OuterDeal F)))
    (ord : List String) (m' : Machine F K) (pid : Nat) (ds : List Nat)
    (h : responsesOp m round entries ord = (m', Res.responses pid ds)) :
    ∃ i, lookup round m.insts = some i ∧
      ∀ name ∈ ord, ∀ od, lookup name (filed i entries).deals = some od → od.idx ≠ (filed i entries).pid → Acceptable (filed i entries) od := by
  obtain ⟨i, i2, hi, _, hp, _⟩ := responsesOp_ok.mp h
  exact ⟨i, hi, (processDeals_ok ord _ [] i2 ds hp).2⟩

theorem responses_writes_no_ring (m : Machine F K) (round : String) (entries : List (Int × String × Option (OuterDeal F)))
    (ord : List String) : (responsesOp m round entries ord).1.rings = m.rings := by
  fun_cases responsesOp m round entries ord <;> rfl

theorem commits_writes_no_ring (m : Machine F K) (round : String) (entries : List (KeyEntry K)) (poly : List F) :
    (commitsOp m round entries poly).1.rings = m.rings := by
  obtain (e | e) | ⟨_, e, _⟩ := commitsOp_filed m round entries poly <;> rw [e]

theorem deals_writes_no_ring (m : Machine F K) (round : String) (entries : List (String × Option (List F))) :
    (dealsOp m round entries).1.rings = m.rings := by
  fun_cases dealsOp m round entries <;> rfl

theorem master_key_error_writes_no_ring (m : Machine F K) (round : String) (entries : List (String × Option (List (RespMsg F))))
    (ord : List Nat) (h : (masterKeyOp m round entries ord).2 = Res.err) : (masterKeyOp m round entries ord).1.rings = m.rings := by
  revert h
  fun_cases masterKeyOp m round entries ord
  case case6 => nofun
  all_goals exact fun _ => rfl

/-- **a deal is its sender's.** A payload in which another participant's entry carries a deal that names a different dealer
(the machine's own index included - which `ProcessDeals` would skip as "the own deal") is refused: since fix 9d113d5 the
handler compares `deal.Index` with the entry's participant id before filing the deal. On the pinned tree a well-formed
ciphertext of `{}` (dealer index 0) sent to participant 0 was filed, skipped, and the deals step answered with success. -/
theorem foreign_index_refused (entries : List (Int × String × Option (OuterDeal F))) : ∀ (i : Inst F K) (pid : Int) (name : String) (od : OuterDeal F),
    (pid, name, some od) ∈ entries → pid ≠ (i.pid : Int) → (od.idx : Int) ≠ pid → (storeDeals i entries).2 = false := by
  intro i
  fun_induction storeDeals i entries
  case case1 => simp
  -- the loop ends refused: an entry without a deal, or with a deal that names another dealer
  case case3 | case4 => exact fun _ _ _ _ _ _ => rfl
  -- the own entry is passed over: the foreign deal is further on
  case case2 ih =>
    intro pid name od hmem hne hidx
    rcases List.mem_cons.mp hmem with heq | hin
    · cases heq; exact absurd rfl hne
    · exact ih pid name od hin hne hidx
  -- an entry filed (its deal names its sender): the foreign deal is further on
  case case5 hod ih =>
    intro pid name od hmem hne hidx
    rcases List.mem_cons.mp hmem with heq | hin
    · cases heq; exact absurd hidx hod
    · exact ih pid name od hin hne hidx

theorem foreign_index_step_refused (m : Machine F K) (round : String) (entries : List (Int × String × Option (OuterDeal F))) (ord : List String)
    (i : Inst F K) (hi : lookup round m.insts = some i) (pid : Int) (name : String) (od : OuterDeal F)
    (hmem : (pid, name, some od) ∈ entries) (hne : pid ≠ (i.pid : Int)) (hidx : (od.idx : Int) ≠ pid) :
    (responsesOp m round entries ord).2 = Res.err := by
  rw [responsesOp_eq, onRound_some hi]
  exact responsesStep_refused (foreign_index_refused entries i pid name od hmem hne hidx) ord

/-! ### the hypotheses are met: a machine of a two-party round over the integers -/

def exInst : Inst Int Nat :=
  { pid := 0, thr := 2, t := 2, keys := [("a", 1), ("b", 2)], poly := [3, 5],
    commits := [("a", [3, 5]), ("b", [7, 11])], vers := [{}, {}] }

def exMachine : Machine Int Nat := { me := 1, insts := [("r", exInst)] }

/-- b's deal for a: the share 7 + 11·1 on b's commitments -/
def goodDeal : OuterDeal Int :=
  { idx := 1, sigOk := true, inner := some { sid := (1, [7, 11], 2), secI := 0, secV := 18, thr := 2, commits := [7, 11] } }

/-- the same share under commitments that agree with the broadcast ones at a's point only: 6 + 12·1 = 18 -/
def forgedDeal : OuterDeal Int :=
  { idx := 1, sigOk := true, inner := some { sid := (1, [6, 12], 2), secI := 0, secV := 18, thr := 2, commits := [6, 12] } }

example : (responsesOp exMachine "r" [(1, "b", some goodDeal)] ["b"]).2 = Res.responses 0 [1] := by decide
example : (responsesOp exMachine "r" [(1, "b", some forgedDeal)] ["b"]).2 = Res.err := by decide
/-- the `{}` deal of the pinned tree: dealer index 0 = the machine's own, in participant b's entry -/
example : (responsesOp exMachine "r" [(1, "b", some { idx := 0, sigOk := false, inner := none })] ["b"]).2 = Res.err := by decide
example : ¬ Acceptable (filed exInst [(1, "b", some forgedDeal)]) forgedDeal := by
  intro h
  obtain ⟨_, _, d, hd, _, _, _, e, he, hl⟩ := h
  simp only [forgedDeal, Option.some.injEq] at hd
  subst hd
  simp [filed, storeDeals, exInst, forgedDeal] at he
  subst he
  revert hl
  decide

end Dc4bcVerif.Props.C11Air
