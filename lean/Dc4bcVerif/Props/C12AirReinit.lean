/-
  C12 for a machine whose operations log holds re-initialisations next to ordinary operations (a machine that was re-initialised for
  one round and then took part in another ceremony; `Model/AirReinit.lean`).

  * `run2_eq_run`      - a log whose re-initialisation payloads are answered throughout (`okAll`) is handled like the flattened list of
                         key-generation operations;
  * `replay2_is_identity` - stop + replay of such a log on a machine that had just been started gives the same machine (instances
                         and key rings), whatever key rings its database held before.
  Core-only.
-/
import Dc4bcVerif.Props.C20Air

namespace Dc4bcVerif.Props.C12AirReinit
open Dc4bcVerif.Model.Shamir Dc4bcVerif.Model.AirDkg Dc4bcVerif.Props.C12Air Dc4bcVerif.Props.C20Air

variable {F : Type} [Add F] [Mul F] [Sub F] [Div F] [Zero F] [One F] [DecidableEq F] [NatCast F]
variable {K : Type} [DecidableEq K]

/-- an entry of the operations log: an ordinary operation, or a re-initialisation with its payload of key-generation operations -/
inductive LogOp (F K : Type) where
  | kg (op : Op F K)
  | reinit (round : String) (ops : List (Op F K))

def exec2 (m : Machine F K) : LogOp F K → Machine F K
  | .kg op => (exec m op).1
  | .reinit r ops => (reinitOp m r (ops.map Inner.kg)).1

def run2 (m : Machine F K) (log : List (LogOp F K)) : Machine F K := log.foldl exec2 m

def flat : List (LogOp F K) → List (Op F K)
  | [] => []
  | .kg op :: rest => op :: flat rest
  | .reinit _ ops :: rest => ops ++ flat rest

/-- every re-initialisation payload of the log is answered throughout at the point where it is handled -/
def okAll (m : Machine F K) : List (LogOp F K) → Prop
  | [] => True
  | .kg op :: rest => okAll (exec m op).1 rest
  | .reinit _ ops :: rest => okRun m ops = true ∧ okAll (run m ops) rest

theorem run2_eq_run (log : List (LogOp F K)) : ∀ m : Machine F K, okAll m log → run2 m log = run m (flat log) := by
  induction log with
  | nil => intro m _; rfl
  | cons e rest ih =>
    intro m h
    cases e with
    | kg op => exact ih _ h
    | reinit r ops =>
      obtain ⟨h1, h2⟩ := h
      show run2 (exec2 m (.reinit r ops)) rest = run m (ops ++ flat rest)
      rw [run_append]
      show run2 (reinitOp m r (ops.map Inner.kg)).1 rest = _
      rw [reinit_machine m r ops h1]
      exact ih _ h2

theorem okAll_congr (log : List (LogOp F K)) : ∀ {m m' : Machine F K}, vol m' = vol m → (okAll m' log ↔ okAll m log) := by
  induction log with
  | nil => intros; exact Iff.rfl
  | cons e rest ih =>
    intro m m' h
    cases e with
    | kg op => exact ih (exec_congr h op).2
    | reinit r ops =>
      show (okRun m' ops = true ∧ okAll (run m' ops) rest) ↔ (okRun m ops = true ∧ okAll (run m ops) rest)
      rw [okRun_congr ops h, ih (vol_run_congr h ops)]

theorem okAll_vol (log : List (LogOp F K)) : ∀ m : Machine F K, okAll m log ↔ okAll (vol m) log :=
  fun m => (okAll_congr log (vol_vol m)).symm

theorem replay2_is_identity (m : Machine F K) (hstarted : m.insts = []) (log : List (LogOp F K)) (hok : okAll m log) :
    run2 (stop (run2 m log)) log = run2 m log := by
  have hok2 : okAll (stop (run m (flat log))) log := (okAll_congr log (vol_stop_run m hstarted _)).mpr hok
  rw [run2_eq_run log m hok, run2_eq_run log _ hok2]
  exact replay_general m hstarted (flat log)

end Dc4bcVerif.Props.C12AirReinit
