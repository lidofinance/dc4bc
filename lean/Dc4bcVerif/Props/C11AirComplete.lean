/-
  The converse of `C11Air.processDeals_ok`: **acceptable deals are accepted.** A machine that has examined no deal yet
  (every verifier fresh) and whose stored deals for the others are all `Acceptable`, from pairwise different dealers, answers
  the deals step with its responses - it does not refuse an honest round. Together with `processDeals_ok`: on a fresh
  instance the deals step is answered with responses IF AND ONLY IF every deal stored for another participant is acceptable
  (`fresh_step_ok_iff`), in every order of Go's range.
-/
import Dc4bcVerif.Props.C11Air

namespace Dc4bcVerif.Props.C11AirComplete
open Dc4bcVerif.Model.Shamir Dc4bcVerif.Model.AirDkg Dc4bcVerif.Props.C11Air Dc4bcVerif.Props.C12AirOrder
open Dc4bcVerif.Lemmas.AirDkgSteps

variable {F : Type} [Add F] [Mul F] [Sub F] [Div F] [Zero F] [One F] [DecidableEq F] [NatCast F]
variable {K : Type} [DecidableEq K]

def Fresh (v : Verifier F) : Prop := v.deal = none ∧ v.resp = []

theorem verStep_fresh (n pid : Nat) (v : Verifier F) (od : OuterDeal F) (d : PlainDeal F) (hf : Fresh v)
    (hd : od.inner = some d) (hI : d.secI = pid) (hp : pid < n) (ht : validT d.thr n = true)
    (hs : evalPoly d.commits (node d.secI) = d.secV) : (verStep n pid v od).2 = some true :=
  verStep_approves.mpr ⟨d, hd, hI, hf.1, by rw [hf.2]; rfl, ht, hI ▸ hp, hs⟩

/-- what has to hold of the deals a range visits for the step to go through on a machine that has examined nothing -/
structure Ready (i : Inst F K) (ord : List String) : Prop where
  pid_lt : i.pid < i.keys.length
  vers_len : i.vers.length = i.keys.length
  acceptable : ∀ name ∈ ord, ∀ od, effective i name = some od → Acceptable i od
  fresh : ∀ name ∈ ord, ∀ od, effective i name = some od → ∀ v, i.vers[od.idx]? = some v → Fresh v
  distinct : (ord.filterMap (effective i)).map (·.idx) |>.Nodup

theorem steps_of_acceptable (l : List (OuterDeal F)) : ∀ i : Inst F K, i.pid < i.keys.length → i.vers.length = i.keys.length →
    (∀ od ∈ l, Acceptable i od ∧ ∀ v, i.vers[od.idx]? = some v → Fresh v) → (l.map (·.idx)).Nodup → ∃ i', steps i l = some i' := by
  induction l with
  | nil => exact fun i _ _ _ _ => ⟨i, rfl⟩
  | cons od rest ih =>
    intro i hp hl h hd
    obtain ⟨ha, hfresh⟩ := h od List.mem_cons_self
    obtain ⟨v, hv⟩ : ∃ v, i.vers[od.idx]? = some v := ⟨_, List.getElem?_eq_getElem (hl ▸ ha.1)⟩
    obtain ⟨i1, hs⟩ := step1_isSome_iff.mpr ⟨hp, ha, v, hv, (hfresh v hv).1, by rw [(hfresh v hv).2]; rfl⟩
    obtain ⟨_, _, _, _, _, _, rfl⟩ := step1_eq_some.mp hs
    rw [List.map_cons, List.nodup_cons] at hd
    unfold steps
    rw [hs]
    refine ih _ hp (by simpa using hl) (fun od' hod' => ⟨(h od' (List.mem_cons_of_mem _ hod')).1, fun w hw => ?_⟩) hd.2
    -- another dealer's verifier is the one it was
    have hne : od.idx ≠ od'.idx := fun e => hd.1 (e ▸ List.mem_map_of_mem hod')
    rw [List.getElem?_set_ne hne] at hw
    exact (h od' (List.mem_cons_of_mem _ hod')).2 w hw

theorem acceptable_deals_accepted (ord : List String) : ∀ (i : Inst F K), Ready i ord → ∃ i', loop i ord = some i' := by
  intro i hr
  rw [loop_eq_steps]
  refine steps_of_acceptable _ i hr.pid_lt hr.vers_len (fun od hod => ?_) hr.distinct
  obtain ⟨nm, hn, he⟩ := List.mem_filterMap.mp hod
  exact ⟨hr.acceptable nm hn od he, hr.fresh nm hn od he⟩

/-- On a machine that has examined no deal of the dealers a range visits, with deals of pairwise
different dealers: the loop goes through iff every deal it visits is acceptable. -/
theorem fresh_step_ok_iff (i : Inst F K) (ord : List String) (hp : i.pid < i.keys.length) (hl : i.vers.length = i.keys.length)
    (hfresh : ∀ name ∈ ord, ∀ od, effective i name = some od → ∀ v, i.vers[od.idx]? = some v → Fresh v)
    (hdist : ((ord.filterMap (effective i)).map (·.idx)).Nodup) :
    (∃ i', loop i ord = some i') ↔ (∀ name ∈ ord, ∀ od, effective i name = some od → Acceptable i od) := by
  constructor
  · rintro ⟨i', h⟩ name hn od hod
    rw [loop_eq_steps] at h
    exact (steps_acceptable _ i i' h).2 od (List.mem_filterMap.mpr ⟨name, hn, hod⟩)
  · intro hacc
    exact acceptable_deals_accepted ord i ⟨hp, hl, hacc, hfresh, hdist⟩

/-- The master-key step is answered with an announcement only if, on this machine,
EVERY dealer's deal holds the approval of EVERY participant (no complaint, nobody missing) - C11: "a round can become
signing-ready only if every private deal was consistent with its dealer's public commitments", as far as one machine can
see: its own approvals are the checks of `C11Air.processDeals_ok`, the others' are what they reported. -/
theorem announcement_needs_every_approval (m : Machine F K) (round : String) (entries : List (String × Option (List (RespMsg F))))
    (ord : List Nat) (m' : Machine F K) (pid : Nat) (key : Option F) (poly : List F)
    (h : masterKeyOp m round entries ord = (m', Res.masterKey pid key poly)) :
    ∃ i', lookup round m'.insts = some i' ∧ i'.keys.length ≤ i'.vers.length ∧
      ∀ v ∈ i'.vers, ∀ k, k < i'.keys.length → lookupN k v.resp = some true := by
  obtain ⟨i, i2, kr, _, hq, _, rfl, _⟩ := masterKeyOp_ok h
  obtain ⟨hcert, hlen⟩ := processResponses_certified ord _ _ hq
  exact ⟨i2, lookup_file_insts .., hlen, fun v hv k hk => dealCertified_approved hk (List.all_eq_true.mp hcert v hv)⟩

/-- A complaint of another participant among the responses a range visits - about whatever deal,
the machine's own included - and the step is refused. (Until fix c76d172 the machine of the dealer complained about
justified its own deal to itself, counted the complaint as an approval, answered with the announcement and stored a share
for a round every other machine aborted: algdiff deviation `response-complaint-signed`.) -/
theorem complaint_refused (rs : List (RespMsg F)) : ∀ (i : Inst F K), (∃ r ∈ rs, r.ver ≠ i.pid ∧ r.status = false) →
    (processRespList i rs).2 = false := by
  intro i
  fun_induction processRespList i rs
  case case1 => rintro ⟨r, hr, _⟩; cases hr
  -- the loop ends refused: at a complaint, or at a response `dkgProcessResponse` refuses
  case case3 | case4 => exact fun _ => rfl
  -- an own response is passed over: the complaint is further on
  case case2 hx ih =>
    rintro ⟨r, hr, hne, hst⟩
    rcases List.mem_cons.mp hr with rfl | hin
    · exact absurd hx hne
    · exact ih ⟨r, hin, hne, hst⟩
  -- an approval examined: the complaint is further on, and the own index is what it was
  case case5 i x _ _ hs i' e ih =>
    rintro ⟨r, hr, hne, hst⟩
    rcases List.mem_cons.mp hr with rfl | hin
    · simp [hst] at hs
    · have hp := (dkgProcessResponse_pid i x).1
      rw [e] at hp
      exact ih ⟨r, hin, hp ▸ hne, hst⟩

end Dc4bcVerif.Props.C11AirComplete
