/-
  C16 — the source facts behind "a send is one atomic step" (Model/Board.lean `send`: count the lines, append one line
  whose offset is that count — as ONE step of whatever interleaving of writers), read off /repo on every run (Gen/Board.lean).

  * `send_is_one_locked_step`: `send` takes the lock first, releases it by a deferred call, and between the two rewinds the
    file, counts the lines, marshals and appends — in that order, with nothing else that touches the file or the lock.
  * `one_lock_whatever_the_spelling`: a handle takes the lock file its caller names, or else ONE constant file
    (`/tmp/dc4bc_storage_lock`): which lock a handle takes does not depend on the data file's name, so two handles that reach
    the same file under different spellings of its path (relative, through a symlink, with `./`) and name no lock still
    exclude each other. (dc4bc_d names none.) A lock derived from the path as it is spelled would not: the fact changes, and
    boarddiff's default-lock histories — every writer spelling the path of one board its own way — look for the two entries
    that then share an offset.
-/
import Dc4bcVerif.Gen.Board

namespace Dc4bcVerif.Props.C16Src
open Dc4bcVerif.Gen

theorem send_is_one_locked_step :
    Board.sendCalls = ["fs.lockFile.Lock", "defer fs.lockFile.Unlock", "fs.dataFile.Seek", "countLines", "json.Marshal", "fmt.Fprintln"] := rfl

theorem one_lock_whatever_the_spelling :
    Board.lockArgs = ["lockFilename[0]", "defaultLockFile"] ∧ Board.defaultLockFile = "/tmp/dc4bc_storage_lock" := ⟨rfl, rfl⟩

end Dc4bcVerif.Props.C16Src
