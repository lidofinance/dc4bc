/-
  C16 / C18 with lines that are no messages (`Model/BoardLines.lean`; fix 58eae51), for EVERY history of sends, writers dying in
  the middle of an append and foreign lines:
  * `offset_eq_position_lines` - every message stands at the position its offset names;
  * `append_only_lines`        - a step never changes a line that is there;
  * `send_adds_one_message`    - a send adds exactly one message line, carrying its id, at the end;
  * `read_from_own_offset`     - a message that is in the file is returned by a read from any offset up to its own (unless ignored);
  * `read_is_total` is the type of `getMessages` (a list, no error); `pinned_unreadable_after_junk`,
    `pinned_send_after_torn_tail_glues`: what the pinned tree did (witnesses, `by decide`).
  Core-only.
-/
import Dc4bcVerif.Model.BoardLines

namespace Dc4bcVerif.Props.C16Lines
open Dc4bcVerif.Model.Board (Entry)
open Dc4bcVerif.Model.BoardLines

/-- every message line carries its position -/
def OffsetsOk (f : File) : Prop := ∀ k e, f.lines[k]? = some (Line.msg e) → e.offset = k

theorem offsetsOk_append {l : List Line} {t : Option Nat} (h : OffsetsOk ⟨l, t⟩) (x : Line) (hx : ∀ e, x = .msg e → e.offset = l.length)
    (t' : Option Nat) : OffsetsOk ⟨l ++ [x], t'⟩ := by
  intro k e hk
  rcases Nat.lt_trichotomy k l.length with hlt | rfl | hgt
  · exact h k e (by rwa [List.getElem?_append_left hlt] at hk)
  · exact hx e (by simpa using hk)
  · rw [List.getElem?_eq_none (by simp; omega)] at hk; cases hk

theorem closeTorn_ok (f : File) (h : OffsetsOk f) : OffsetsOk (closeTorn f) := by
  unfold closeTorn
  cases f.torn with
  | none => exact h
  | some s => exact offsetsOk_append h _ (fun _ he => by cases he) _

theorem step_ok (f : File) (op : Op) (h : OffsetsOk f) : OffsetsOk (step f op) := by
  cases op with
  | send id size => exact offsetsOk_append (closeTorn_ok f h) _ (fun _ he => by cases he; rfl) _
  | dies size => unfold step; cases f.torn <;> exact h
  | garbage size => unfold step; cases f.torn <;> exact offsetsOk_append h _ (fun _ he => by cases he) _

theorem offset_eq_position_lines (ops : List Op) : OffsetsOk (run {} ops) :=
  List.foldlRecOn (motive := OffsetsOk) ops _ (fun k e hk => by simp at hk) fun f h op _ => step_ok f op h

theorem append_only_lines (f : File) (op : Op) : ∃ more, (step f op).lines = f.lines ++ more := by
  cases op with
  | send id size =>
    show ∃ more, (send f id size).lines = f.lines ++ more
    unfold send closeTorn
    cases f.torn with
    | none => exact ⟨_, rfl⟩
    | some s => exact ⟨[Line.junk s] ++ [Line.msg ⟨id, (f.lines ++ [Line.junk s]).length, size⟩], by simp⟩
  | dies size => unfold step; cases f.torn <;> exact ⟨[], by simp⟩
  | garbage size => unfold step; cases f.torn <;> exact ⟨_, rfl⟩

theorem send_adds_one_message (f : File) (id : String) (size : Nat) :
    ∃ closed, (send f id size).lines = closed ++ [Line.msg ⟨id, closed.length, size⟩] ∧
      closed.filterMap Line.msg? = f.lines.filterMap Line.msg? ∧ (send f id size).torn = none := by
  obtain ⟨lines, torn⟩ := f
  unfold send closeTorn
  cases torn with
  | none => exact ⟨lines, rfl, rfl, rfl⟩
  | some s => exact ⟨lines ++ [Line.junk s], rfl, by simp [Line.msg?], rfl⟩

theorem read_from_own_offset (f : File) (k : Nat) (e : Entry) (hk : f.lines[k]? = some (Line.msg e))
    (off : Nat) (hoff : off ≤ k) (ignId : List String) (ignOff : List Nat)
    (hi : ignId.contains e.id = false) (ho : ignOff.contains e.offset = false) :
    e ∈ getMessages f off ignId ignOff := by
  unfold getMessages
  rw [List.mem_filter]
  refine ⟨?_, by simp only [hi, ho, Bool.not_false, Bool.and_self]⟩
  rw [List.mem_filterMap]
  refine ⟨Line.msg e, ?_, rfl⟩
  have : (f.lines.drop off)[k - off]? = some (Line.msg e) := by
    rw [List.getElem?_drop]; rw [show off + (k - off) = k by omega]; exact hk
  exact List.mem_of_getElem? this

/-- one line that does not decode: every read from an offset at or before it fails (the Poll loop of every node ends) -/
theorem pinned_unreadable_after_junk :
    let f := run {} [.send "a" 10, .garbage 7, .send "b" 10]
    getMessagesPinned f 0 [] [] = none ∧ getMessagesPinned f 1 [] [] = none ∧
    (getMessages f 0 [] []).map (·.id) = ["a", "b"] := by decide

/-- a writer dies in its append, the next one sends: since the fix its message stands on its own line at its offset;
on the pinned tree it is glued onto the fragment - no line carries it -/
theorem pinned_send_after_torn_tail_glues :
    let f := step (run {} [.send "a" 10]) (.dies 5)
    ((send f "b" 10).lines.filterMap Line.msg?).map (fun e => (e.id, e.offset)) = [("a", 0), ("b", 2)] ∧
    ((sendPinned f "b" 10).lines.filterMap Line.msg?).map (fun e => (e.id, e.offset)) = [("a", 0)] := by decide

end Dc4bcVerif.Props.C16Lines
