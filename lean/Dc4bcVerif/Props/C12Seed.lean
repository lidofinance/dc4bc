/-
  C12 — the source facts behind `MemPure` (Props/C12Process.lean), read off /repo on every run (Gen/SeedFacts.lean).

  The process memory of an airgapped machine that the handlers read is the base seed `am.baseSeed` (a byte slice).
  * `seed_written_only_when_set`: the field is assigned in exactly two places — when the process starts (`loadBaseSeed`:
    what the database holds, or a freshly generated seed that was stored first) and in `SetBaseSeed` (the operator's
    set_seed: stored first, then assigned). No operation handler assigns it or an element of it.
  * `seed_handed_on_to`: the only other mentions: it is copied into a fresh buffer for the round suite's seed
    (`append([]byte(round), baseSeed...)` appends FROM it), it seeds the base suite, and the slice itself is handed to
    `dkg.InitDKGInstance`.
  * `seed_parameter_is_read_only`: `InitDKGInstance` makes no write to (an element of) the slice it is handed, and the only
    thing it does with it is to hand it to `frand.NewCustom` (external: it reads the seed into its own key; trusted).
  A change that wipes, reuses or re-derives the seed in place changes these lists: the proof obligation breaks, and airdiff's
  second-ceremony scenario looks for the history on which a restarted machine then answers differently.
-/
import Dc4bcVerif.Gen.SeedFacts

namespace Dc4bcVerif.Props.C12Seed
open Dc4bcVerif.Gen

theorem seed_written_only_when_set :
    SeedFacts.seedWrites = [("loadBaseSeed", "am.baseSeed = seed"), ("SetBaseSeed", "am.baseSeed = seed")] := rfl

theorem seed_handed_on_to :
    SeedFacts.seedUses = [("handleStateDkgCommitsAwaitConfirmations", "append([]byte(o.DKGIdentifier), am.baseSeed...)"),
      ("handleStateDkgCommitsAwaitConfirmations", "dkgInstance.InitDKGInstance(am.baseSeed)"),
      ("loadBaseSeed", "bls12381.NewBLS12381Suite(am.baseSeed)"), ("SetBaseSeed", "bls12381.NewBLS12381Suite(am.baseSeed)")] := rfl

theorem seed_parameter_is_read_only :
    SeedFacts.seedParamWrites = [] ∧ SeedFacts.seedParamUses = ["frand.NewCustom(seed, 32, 20)"] := ⟨rfl, rfl⟩

end Dc4bcVerif.Props.C12Seed
