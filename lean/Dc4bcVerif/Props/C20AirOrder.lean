/-
  C20, the airgapped side, continued: Go's map order in the deals step (`dkg.ProcessDeals` ranges over the stored deals) need not be
  the same in the original ceremony and in the re-initialisation.

  * `exec_sim`  - two operations that differ only in the range order of a responses step (a permutation), the first answered with a
                  result: the second is answered with a result too and leaves the same machine (`C12AirOrder.responses_order_irrelevant`);
  * `run_sim`   - the same along a whole run all of whose steps are answered with results;
  * `reinit_reproduces_share_any_deal_order` - `C20Air.reinit_reproduces_share` for a payload whose responses steps range in ANY order.
  The master-key step's range (`ProcessResponses` over `indexToData`) is not treated: its order is the same in both runs here. Core-only.
-/
import Dc4bcVerif.Props.C20Air
import Dc4bcVerif.Props.C12AirOrder
import Dc4bcVerif.Props.C20AirMasterKey

namespace Dc4bcVerif.Props.C20AirOrder
-- every statement carries all instance binders of the `variable` line, whether it uses them or not
set_option linter.unusedSectionVars false
open Dc4bcVerif.Model.Shamir Dc4bcVerif.Model.AirDkg Dc4bcVerif.Lemmas.AirDkgSteps Dc4bcVerif.Props.C12Air Dc4bcVerif.Props.C20Air Dc4bcVerif.Props.C20AirMasterKey

variable {F : Type} [Add F] [Mul F] [Sub F] [Div F] [Zero F] [One F] [DecidableEq F] [NatCast F]
variable {K : Type} [DecidableEq K]

/-- the same operation, up to the order in which a responses step ranges over the stored deals -/
inductive OpSim : Op F K → Op F K → Prop where
  | refl (o : Op F K) : OpSim o o
  | resp (r : String) (e : List (Int × String × Option (OuterDeal F))) {o1 o2 : List String} (h : o1.Perm o2) :
      OpSim (.responses r e o1) (.responses r e o2)

inductive SimList : List (Op F K) → List (Op F K) → Prop where
  | nil : SimList [] []
  | cons {a b : Op F K} {l l' : List (Op F K)} : OpSim a b → SimList l l' → SimList (a :: l) (b :: l')

theorem exec_sim (m : Machine F K) {a b : Op F K} (h : OpSim a b) (hok : (exec m a).2 ≠ Res.err) :
    (exec m b).1 = (exec m a).1 ∧ (exec m b).2 ≠ Res.err := by
  cases h with
  | refl o => exact ⟨rfl, hok⟩
  | resp r e hp =>
    rename_i o1 o2
    simp only [exec] at hok ⊢
    rcases responsesOp_cases m r e o1 with he | ⟨pid, ds, hr⟩
    · exact absurd he hok
    · obtain ⟨ds', h2, _⟩ := Dc4bcVerif.Props.C12AirOrder.responses_order_irrelevant m r e hp _ pid ds (Prod.ext rfl hr)
      rw [h2]
      exact ⟨rfl, nofun⟩

/-- every operation is answered with a RESULT: stronger than `C20Air.okRun`, which admits error results (`okRun_of_allOk`);
in particular no operation is a `restart` -/
def allOk (m : Machine F K) : List (Op F K) → Prop
  | [] => True
  | op :: rest => (exec m op).2 ≠ Res.err ∧ allOk (exec m op).1 rest

theorem run_sim (ops ops' : List (Op F K)) (hs : SimList ops ops') : ∀ m : Machine F K, allOk m ops →
    run m ops' = run m ops ∧ allOk m ops' := by
  induction hs with
  | nil => intro m _; exact ⟨rfl, trivial⟩
  | cons hab _ ih =>
    intro m hall
    obtain ⟨h1, h2⟩ := hall
    obtain ⟨e1, e2⟩ := exec_sim m hab h1
    obtain ⟨r1, r2⟩ := ih _ h2
    refine ⟨?_, ?_⟩
    · show run (exec m _).1 _ = run (exec m _).1 _
      rw [e1]; exact r1
    · exact ⟨e2, by rw [e1]; exact r2⟩

theorem okRun_of_allOk (ops : List (Op F K)) : ∀ m : Machine F K, allOk m ops → okRun m ops = true := by
  intro m
  fun_induction okRun m ops
  case case1 => exact fun _ => rfl
  -- an operation that names no round is a `restart`, which is answered `Res.err`
  case case2 m op _ hr =>
    cases op with
    | restart => exact fun h => absurd rfl h.1
    | _ => cases hr
  case case3 m op rest round _ ih =>
    rintro ⟨h1, h2⟩
    rw [ih h2, Bool.and_true]
    have : outcome (exec m op).1 round (exec m op).2 = Outcome.result (exec m op).2 := by
      unfold outcome
      cases hres : (exec m op).2 <;> first | rfl | exact absurd hres h1
    rw [this]

theorem reinit_reproduces_share_any_deal_order (me : K) (ops ops' : List (Op F K)) (R : String) (kr : Keyring F)
    (hall : allOk (fresh me : Machine F K) ops) (hrounds : ∀ op ∈ ops, op.round?.isSome = true)
    (hs : SimList ops ops')
    (hring : lookup R (run (fresh me : Machine F K) ops).rings = some kr)
    (m' : Machine F K) (hme : m'.me = me) (hstarted : m'.insts = []) :
    (reinitOp m' R (ops'.map Inner.kg)).2 = ReinitRes.processed kr.pubPoly ∧
    lookup R (reinitOp m' R (ops'.map Inner.kg)).1.rings = some kr ∧
    (reinitOp m' R (ops'.map Inner.kg)).1.insts = (run (fresh me : Machine F K) ops).insts := by
  obtain ⟨hrun, hall'⟩ := run_sim ops ops' hs (fresh me) hall
  have hok' := okRun_of_allOk ops' (fresh me) hall'
  have hring' : lookup R (run (fresh me : Machine F K) ops').rings = some kr := by rw [hrun]; exact hring
  have := reinit_reproduces_share me ops' R kr hok' hring' m' hme hstarted
  rw [hrun] at this
  exact this

theorem allOk_append (a b : List (Op F K)) : ∀ m : Machine F K, allOk m (a ++ b) ↔ allOk m a ∧ allOk (run m a) b := by
  induction a with
  | nil => intro m; simp [allOk, run]
  | cons op rest ih =>
    intro m
    simp only [List.cons_append, allOk]
    rw [ih]
    exact ⟨fun ⟨x, y, z⟩ => ⟨⟨x, y⟩, z⟩, fun ⟨⟨x, y⟩, z⟩ => ⟨x, y, z⟩⟩

theorem SimList.snoc {l l' : List (Op F K)} (h : SimList l l') (op : Op F K) : SimList (l ++ [op]) (l' ++ [op]) := by
  induction h with
  | nil => exact .cons (.refl op) .nil
  | cons hab _ ih => exact .cons hab ih

/-- The ceremony: the operations `pre`, then the master-key step, all answered with results
by the original machine, which ends with the key ring `kr`. The re-initialisation: the same operations with the deals steps ranging
in ANY order (`SimList`), then the master-key step ranging in ANY order `o2`; if the re-initialised machine answers that step with an
announcement at all, it answers the re-initialisation with the original public polynomial and holds the original key ring. -/
theorem reinit_reproduces_share_any_order (me : K) (pre pre' : List (Op F K)) (R : String)
    (e : List (String × Option (List (RespMsg F)))) (o1 o2 : List Nat) (kr : Keyring F)
    (hall : allOk (fresh me : Machine F K) pre) (hrounds : ∀ op ∈ pre, op.round?.isSome = true)
    (hs : SimList pre pre')
    (horig : ∃ pid k p, (exec (run (fresh me : Machine F K) pre) (.masterKey R e o1)).2 = Res.masterKey pid k p)
    (hring : lookup R (exec (run (fresh me : Machine F K) pre) (.masterKey R e o1)).1.rings = some kr)
    (m' : Machine F K) (hme : m'.me = me) (hstarted : m'.insts = [])
    (hansw : ∃ pid k p, (exec (run m' pre') (.masterKey R e o2)).2 = Res.masterKey pid k p) :
    (reinitOp m' R ((pre' ++ [Op.masterKey R e o2]).map Inner.kg)).2 = ReinitRes.processed kr.pubPoly ∧
    lookup R (reinitOp m' R ((pre' ++ [Op.masterKey R e o2]).map Inner.kg)).1.rings = some kr := by
  -- before the last step the re-initialised machine has the key and the instances of the original one: it answers alike
  obtain ⟨hrun, _⟩ := run_sim pre pre' hs (fresh me) hall
  have hv : vol (run m' pre') = vol (run (fresh me : Machine F K) pre) :=
    hrun ▸ vol_run_congr (vol_of_started m' me hme hstarted) pre'
  obtain ⟨pid2, k2, p2, hres2⟩ := hansw
  rw [(exec_congr hv _).1] at hres2
  -- so the original machine answers the step in the order `o2` as well, and files the same key ring
  obtain ⟨pid1, k1, p1, hres1⟩ := horig
  have hkr := (master_key_ring_order_irrelevant _ R e o1 o2 _ _ pid1 pid2 k1 k2 p1 p2 (Prod.ext rfl hres1) (Prod.ext rfl hres2)).2.2.2
  -- the ceremony with the master-key step in the order `o2` is one that `reinit_reproduces_share_any_deal_order` covers
  have := reinit_reproduces_share_any_deal_order me (pre ++ [.masterKey R e o2]) (pre' ++ [.masterKey R e o2]) R kr
    ((allOk_append ..).mpr ⟨hall, by rw [hres2]; nofun, trivial⟩)
    (fun op hop => (List.mem_append.mp hop).elim (hrounds op) fun h => by cases List.mem_singleton.mp h; rfl)
    (hs.snoc _) (by rw [run_append]; exact hkr ▸ hring) m' hme hstarted
  exact ⟨this.1, this.2.1⟩

/-- non-vacuity: the two-party round of `Model/AirDkg.lean` is answered with results throughout -/
example : allOk ({ me := 1 } : Machine Int Nat) exAll := by
  refine ⟨by decide, by decide, by decide, by decide, trivial⟩

end Dc4bcVerif.Props.C20AirOrder
