/-
  The statement order of the airgapped machine's key-generation handlers, read off `/repo`'s source on every run
  (`Gen/AirDkgOrder.lean`), against the order `Model/AirDkg.lean` gives them. Kernel-evaluated (`decide`).

  * `commits_order`: the instance is built (`dkg.Init`, keys, `InitDKGInstance`), its commitments read, and only then is
    it filed under the round id - a refused commits step leaves no instance (`commitsOp` writes `insts` in its last line).
  * `deals_order`: the broadcast commitments are filed before the own deals are produced.
  * `responses_order`: a deal is decrypted, its dealer index compared with its sender (fix 9d113d5), filed, and only then
    are the deals examined; the answer is written after that.
  * `master_key_order`: responses filed, examined, the key computed, **the key ring saved before the announcement is
    appended to the result** (`masterKeyOp` writes `rings` in the same step that answers `masterKey`; seed C02i moved the
    save behind the announcement: a failed save then left the announcement in the result).
  * `process_deals_order`: per stored deal the own index is skipped, the vss layer asked, then the broadcast commitments
    compared (`processDeals`: `dkgProcessDeal` before `dealCommitsOk`).
-/
import Dc4bcVerif.Gen.AirDkgOrder

namespace Dc4bcVerif.Props.AirDkgSrc
open Dc4bcVerif.Gen.AirDkgOrder

def pos (l : List String) (x : String) : Option Nat :=
  match l.findIdx? (· == x) with
  | some i => some i
  | none => none

/-- `a` occurs, `b` occurs, and the first `a` stands before the first `b` -/
def before (l : List String) (a b : String) : Bool :=
  match pos l a, pos l b with
  | some i, some j => decide (i < j)
  | _, _ => false

theorem commits_order :
    before commitsHandler "dkg.Init" "dkgInstance.StorePubKey" = true ∧
    before commitsHandler "dkgInstance.StorePubKey" "dkgInstance.InitDKGInstance" = true ∧
    before commitsHandler "dkgInstance.InitDKGInstance" "dkgInstance.GetCommits" = true ∧
    before commitsHandler "dkgInstance.GetCommits" "file-instance" = true ∧
    before commitsHandler "file-instance" "createMessage" = true := by decide +kernel

theorem deals_order :
    before dealsHandler "dkgInstance.StoreCommits" "dkgInstance.GetDeals" = true ∧
    before dealsHandler "dkgInstance.GetDeals" "am.encryptDataForParticipant" = true ∧
    before dealsHandler "am.encryptDataForParticipant" "createMessage" = true := by decide +kernel

theorem responses_order :
    before responsesHandler "am.decryptDataFromParticipant" "deal-index-check" = true ∧
    before responsesHandler "deal-index-check" "dkgInstance.StoreDeal" = true ∧
    before responsesHandler "dkgInstance.StoreDeal" "dkgInstance.ProcessDeals" = true ∧
    before responsesHandler "dkgInstance.ProcessDeals" "createMessage" = true := by decide +kernel

theorem master_key_order :
    before masterKeyHandler "dkgInstance.StoreResponses" "dkgInstance.ProcessResponses" = true ∧
    before masterKeyHandler "dkgInstance.ProcessResponses" "dkgInstance.GetDistributedPublicKey" = true ∧
    before masterKeyHandler "dkgInstance.GetDistributedPublicKey" "dkgInstance.GetBLSKeyring" = true ∧
    before masterKeyHandler "dkgInstance.GetBLSKeyring" "am.saveBLSKeyring" = true ∧
    before masterKeyHandler "am.saveBLSKeyring" "createMessage" = true := by decide +kernel

/-- the announcement is the ONLY message of the master-key step and nothing is appended before the key ring is saved -/
theorem one_announcement_after_the_save : (masterKeyHandler.filter (· == "createMessage")).length = 1 := by decide +kernel

theorem process_deals_order :
    processDealsSkipsOwn = true ∧
    before processDeals "deal-index-check" "d.instance.ProcessDeal" = true ∧
    before processDeals "d.instance.ProcessDeal" "d.processDealCommits" = true := by decide +kernel

/-- the stored deals are examined in a fixed order (fix 6d0dc23): the Schnorr nonces of the responses come from the round's
seeded stream, so the same deals handled again - a replay, a machine made from the same mnemonic - are signed response by
response with the same nonces; a map range would pair a nonce with ANOTHER response (two signatures with one nonce give the
long-term key away: airdiff `C04 nonce_reuse`). The model's answers never depended on the order (Props/C12AirOrder.lean); the
signatures are below the model. -/
theorem process_deals_in_a_fixed_order : processDealsFixedOrder = true := rfl

end Dc4bcVerif.Props.AirDkgSrc
