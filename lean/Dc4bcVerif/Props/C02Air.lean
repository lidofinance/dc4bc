/-
  C02 at the airgapped machine — over `Model/AirDkg.lean` (tied to the real machine by the `airdkg` stream).

  **`stored_share_on_announced_polynomial`**: whatever operations a machine has been handed since it was started — any
  payloads, honest or not, any rounds, any order of Go's map ranges — if it answers a master-key step with an
  announcement, then the share it stores for that round lies on the public polynomial it announces, at its own node, and
  the master key it announces is that polynomial's constant term. (C02: "all n airgapped machines hold a private share
  lying on one and the same public polynomial … that polynomial's constant term is the group key every participant
  announced"; that the n machines announce the SAME polynomial is what the node-level comparison of C02Fsm enforces.)

  The proof is the invariant of `Lemmas/AirDkgInv.lean` (a verifier with the machine's own approval holds a deal whose
  share lies on the deal's commitments) + "certified ⇒ own approval present" + linearity of Horner evaluation.
  Over an arbitrary field.
-/
import Mathlib.Algebra.Field.Defs
import Mathlib.Tactic.Ring
import Dc4bcVerif.Lemmas.AirDkgInv

-- every statement carries all instance binders of the `variable` line, whether it uses them or not
set_option linter.unusedSectionVars false

namespace Dc4bcVerif.Props.C02Air
open Dc4bcVerif.Model.Shamir Dc4bcVerif.Model.AirDkg Dc4bcVerif.Lemmas.AirDkgSteps Dc4bcVerif.Lemmas.AirDkgInv

variable {F : Type} [Field F] [DecidableEq F]
variable {K : Type} [DecidableEq K]

theorem evalPoly_addPoly (a b : List F) (x : F) : evalPoly (addPoly a b) x = evalPoly a x + evalPoly b x := by
  induction a generalizing b with
  | nil => simp [addPoly, evalPoly]
  | cons c cs ih =>
    cases b with
    | nil => simp [addPoly, evalPoly]
    | cons d ds =>
      have := ih ds
      simp only [evalPoly] at this ⊢
      simp only [addPoly, List.foldr_cons, this]
      ring

theorem evalPoly_sumPolys (ps : List (List F)) (x : F) : evalPoly (sumPolys ps) x = sumL (ps.map (fun p => evalPoly p x)) := by
  induction ps with
  | nil => simp [sumPolys, evalPoly, sumL]
  | cons p rest ih =>
    simp only [sumPolys, List.foldr_cons, List.map_cons, sumL] at ih ⊢
    rw [evalPoly_addPoly, ih]

theorem certified_own_approval {n pid : Nat} {v : Verifier F} (hp : pid < n) (h : dealCertified n v = true) :
    lookupN pid v.resp = some true :=
  dealCertified_approved hp h

theorem certified_has_deal {n : Nat} {v : Verifier F} (h : dealCertified n v = true) : v.deal.isSome = true := by
  unfold dealCertified at h
  split at h
  · simp at h
  · rename_i hd; simp [hd]

theorem distKey_on_poly (i : Inst F K) (hinv : InstInv i) (hcert : i.vers.all (dealCertified i.keys.length) = true)
    (kr : Keyring F) (hk : distKey i = some kr) : evalPoly kr.pubPoly (node i.pid) = kr.share := by
  obtain ⟨hpid, _, hvers⟩ := hinv
  revert hk
  fun_cases distKey i
  case case4 =>
    rintro ⟨⟩
    rw [evalPoly_sumPolys]
    congr 1
    rw [List.map_map]
    apply List.map_congr_left
    intro d hd
    obtain ⟨v, hv, hvd⟩ := List.mem_filterMap.mp hd
    have hc : dealCertified i.keys.length v = true := by
      rw [List.all_eq_true] at hcert; exact hcert v hv
    obtain ⟨d', hd', he⟩ := hvers v hv (certified_own_approval hpid hc)
    rw [hvd] at hd'
    simp only [Option.some.injEq] at hd'
    subst hd'
    simpa using he
  all_goals nofun

theorem master_key_share_on_poly (m : Machine F K) (hm : MachineInv m) (round : String)
    (entries : List (String × Option (List (RespMsg F)))) (ord : List Nat) (m' : Machine F K) (pid : Nat) (key : Option F) (poly : List F)
    (h : masterKeyOp m round entries ord = (m', Res.masterKey pid key poly)) :
    ∃ kr, lookup round m'.rings = some kr ∧ kr.pubPoly = poly ∧ key = poly.head? ∧ evalPoly poly (node pid) = kr.share := by
  obtain ⟨i, i2, kr, hi, hq, hk, rfl, rfl, rfl, rfl⟩ := masterKeyOp_ok h
  have hinv := processResponses_inv ord _ (storeResponses_inv entries i (hm round i hi))
  rw [hq] at hinv
  exact ⟨kr, lookup_file_rings .., rfl, rfl, distKey_on_poly _ hinv (processResponses_certified ord _ _ hq).1 kr hk⟩

theorem signOp_pure (m : Machine F K) (round : String) (payloadOk : Bool) (msgs : Option Nat) : (signOp m round payloadOk msgs).1 = m :=
  signOp_fst m round payloadOk msgs

theorem run_inv (ops : List (Op F K)) : ∀ (m : Machine F K), MachineInv m → MachineInv (run m ops) :=
  Lemmas.AirDkgInv.run_inv ops

/-- After ANY sequence of operations (and restarts) since a fresh start, a
master-key step that is answered with an announcement stores a share that lies on the announced polynomial at the machine's
node, and announces that polynomial's constant term as the master key. -/
theorem stored_share_on_announced_polynomial (me : K) (ops : List (Op F K)) (round : String)
    (entries : List (String × Option (List (RespMsg F)))) (ord : List Nat) (m' : Machine F K) (pid : Nat) (key : Option F) (poly : List F)
    (h : masterKeyOp (run ({ me := me } : Machine F K) ops) round entries ord = (m', Res.masterKey pid key poly)) :
    ∃ kr, lookup round m'.rings = some kr ∧ kr.pubPoly = poly ∧ key = poly.head? ∧ evalPoly poly (node pid) = kr.share :=
  master_key_share_on_poly _ (run_inv ops _ (fresh_inv me)) round entries ord m' pid key poly h

end Dc4bcVerif.Props.C02Air
