/-
  C01 — reconstructed threshold signatures verify under the group key and agree.

  Algebraic model: `F` a field (the scalar field), `G₁ G₂ G_T` `F`-vector spaces (the groups written
  additively), `e : G₁ →ₗ G₂ →ₗ G_T` bilinear (the pairing), `H m : G₂` the hash-to-curve point.
  Shares are `f(i+1)` for the group polynomial `f` of degree `< t`; a partial signature is
  `f(i+1) • H m`; recovery is kyber's `share.RecoverCommit` / `tbls.Recover`:
  `Σ_i (Π_{j≠i} x_j / (x_j − x_i)) • σ_i` over the collected nodes (`Model/Shamir.lean`, the very
  definitions the driver runs over ℤ/r against the real shares).
-/
import Mathlib.LinearAlgebra.Lagrange
import Dc4bcVerif.Model.Shamir

-- every statement carries all instance binders of the `variable` line, whether it uses them or not
set_option linter.unusedSectionVars false

namespace Dc4bcVerif.Props.C01
open Polynomial Dc4bcVerif.Model.Shamir

section Scalars
variable {F : Type} [Field F] [DecidableEq F]

theorem sumL_eq (l : List F) : sumL l = l.sum := rfl

theorem prodL_eq (l : List F) : prodL l = l.prod := rfl

theorem weight_eq (xs : List F) (hnd : xs.Nodup) (xi : F) :
    weight xs xi = ∏ y ∈ xs.toFinset.erase xi, y / (y - xi) := by
  unfold weight
  rw [prodL_eq, ← List.prod_toFinset _ (hnd.filter _)]
  apply Finset.prod_congr _ (fun _ _ => rfl)
  ext y
  simp [and_comm]

theorem basis_eval_zero (s : Finset F) (x : F) :
    (Lagrange.basis s id x).eval 0 = ∏ y ∈ s.erase x, y / (y - x) := by
  unfold Lagrange.basis
  rw [eval_prod]
  apply Finset.prod_congr rfl
  intro y _
  simp only [Lagrange.basisDivisor, id, eval_mul, eval_C, eval_sub, eval_X]
  rw [← neg_sub x y, div_eq_mul_inv, inv_neg]
  ring

/-- **Lagrange recovery.** For every field, every list of pairwise distinct nodes and every
polynomial of degree below the number of nodes, kyber's recovery formula applied to the points
`(x, f x)` returns `f 0`. -/
theorem recover_eq_eval_zero (xs : List F) (hnd : xs.Nodup) (f : F[X]) (hdeg : f.degree < xs.length) :
    recoverAtZero (xs.map (fun x => (x, f.eval x))) = f.eval 0 := by
  unfold recoverAtZero
  have hfst : (xs.map (fun x => (x, f.eval x))).map (·.1) = xs := by
    rw [List.map_map]; exact List.map_id' xs
  rw [sumL_eq, hfst, List.map_map]
  have hinj : Set.InjOn (id : F → F) (xs.toFinset : Set F) := fun _ _ _ _ h => h
  have hcard : xs.toFinset.card = xs.length := List.toFinset_card_of_nodup hnd
  have hrepr := Lagrange.eq_interpolate (s := xs.toFinset) (v := id) (f := f) hinj (by rw [hcard]; exact hdeg)
  conv_rhs => rw [hrepr]
  rw [Lagrange.interpolate_apply, eval_finsetSum, ← List.sum_toFinset _ hnd]
  apply Finset.sum_congr rfl
  intro x _
  simp only [Function.comp, eval_mul, eval_C, id]
  rw [weight_eq xs hnd x, basis_eval_zero]

/-- the polynomial with the given coefficient list (constant term first) -/
noncomputable def toPoly : List F → F[X]
  | [] => 0
  | c :: cs => C c + X * toPoly cs

/-- `PriPoly.Eval` (Horner) evaluates that polynomial -/
theorem evalPoly_eq (cs : List F) (x : F) : evalPoly cs x = (toPoly cs).eval x := by
  induction cs with
  | nil => simp [evalPoly, toPoly]
  | cons c cs ih =>
    simp only [evalPoly, List.foldr_cons] at ih ⊢
    simp [toPoly, ih]

theorem toPoly_degree_lt (cs : List F) : (toPoly cs).degree < (cs.length : WithBot ℕ) := by
  induction cs with
  | nil => rw [toPoly, degree_zero]; exact WithBot.bot_lt_coe _
  | cons c cs ih =>
    rw [toPoly, List.length_cons, Nat.cast_succ]
    refine lt_of_le_of_lt (degree_add_le _ _) (max_lt ?_ ?_)
    · exact lt_of_le_of_lt degree_C_le (WithBot.coe_pos.mpr (Nat.succ_pos _))
    · rw [mul_comm, degree_mul_X]
      exact WithBot.add_lt_add_right WithBot.one_ne_bot ih

theorem toPoly_degree_lt' (cs : List F) (h : cs ≠ []) : (toPoly cs).degree < (cs.length : WithBot ℕ) := by
  clear h; exact toPoly_degree_lt cs

/-- share node of participant `j` (kyber: `x = j + 1`) -/
def node (j : ℕ) : F := ((j + 1 : ℕ) : F)

/-- **recover_eq** (scalar form). Shares `f(j+1)` of ANY `t`-coefficient polynomial, collected from
any list of participants whose nodes are pairwise distinct in the field and which has at least
`t` members — in any order — recover `f(0)`, the group secret. -/
theorem recover_shares (cs : List F) (hcs : cs ≠ []) (idxs : List ℕ)
    (hnd : (idxs.map (node (F := F))).Nodup) (hlen : cs.length ≤ idxs.length) :
    recoverAtZero (idxs.map (fun j => (node j, evalPoly cs (node j)))) = evalPoly cs 0 := by
  have h := recover_eq_eval_zero (idxs.map (node (F := F))) hnd (toPoly cs)
    (lt_of_lt_of_le (toPoly_degree_lt' cs hcs) (by simpa using hlen))
  rw [List.map_map] at h
  simp only [evalPoly_eq]
  exact h

/-- Any two such signer lists (different `t`-subsets, different orders) recover the same value -/
theorem recover_agree (cs : List F) (hcs : cs ≠ []) (idxs idxs' : List ℕ)
    (hnd : (idxs.map (node (F := F))).Nodup) (hnd' : (idxs'.map (node (F := F))).Nodup)
    (hlen : cs.length ≤ idxs.length) (hlen' : cs.length ≤ idxs'.length) :
    recoverAtZero (idxs.map (fun j => (node j, evalPoly cs (node j)))) =
    recoverAtZero (idxs'.map (fun j => (node j, evalPoly cs (node j)))) := by
  rw [recover_shares cs hcs idxs hnd hlen, recover_shares cs hcs idxs' hnd' hlen']

end Scalars

section Signatures
variable {F : Type} [Field F] [DecidableEq F]
variable {G₁ G₂ GT : Type} [AddCommGroup G₁] [Module F G₁] [AddCommGroup G₂] [Module F G₂] [AddCommGroup GT] [Module F GT]

/-- `tbls.Recover` / `share.RecoverCommit`: the same weights applied to group elements -/
def recoverPoint (pts : List (F × G₂)) : G₂ :=
  (pts.map (fun p => weight (pts.map (·.1)) p.1 • p.2)).sum

/-- **recover_eq.** Partial signatures `f(j+1) • H` recover to the group signature `f(0) • H`. -/
theorem recover_signature (cs : List F) (hcs : cs ≠ []) (idxs : List ℕ)
    (hnd : (idxs.map (node (F := F))).Nodup) (hlen : cs.length ≤ idxs.length) (H : G₂) :
    recoverPoint (idxs.map (fun j => (node (F := F) j, evalPoly cs (node j) • H))) = evalPoly cs 0 • H := by
  have hs := recover_shares cs hcs idxs hnd hlen
  unfold recoverPoint
  unfold recoverAtZero at hs
  rw [sumL_eq] at hs
  rw [← hs, List.sum_smul]
  simp only [List.map_map]
  congr 1
  apply List.map_congr_left
  intro j _
  simp only [Function.comp, smul_smul]
  rw [mul_comm]
  rfl

/-- BLS verification equation -/
def verify (e : G₁ →ₗ[F] G₂ →ₗ[F] GT) (g₁ pk : G₁) (Hm σ : G₂) : Prop := e g₁ σ = e pk Hm

/-- The recovered value verifies under the group key `f(0) • g₁` -/
theorem verify_recovered (e : G₁ →ₗ[F] G₂ →ₗ[F] GT) (g₁ : G₁) (Hm : G₂) (s : F) :
    verify e g₁ (s • g₁) Hm (s • Hm) := by
  simp [verify]

/-- the full chain: any ≥ t partial signatures of the shares reconstruct a value that verifies
under the group public key for that message -/
theorem reconstructed_signature_valid (e : G₁ →ₗ[F] G₂ →ₗ[F] GT) (g₁ : G₁) (Hm : G₂)
    (cs : List F) (hcs : cs ≠ []) (idxs : List ℕ)
    (hnd : (idxs.map (node (F := F))).Nodup) (hlen : cs.length ≤ idxs.length) :
    verify e g₁ (evalPoly cs 0 • g₁) Hm
      (recoverPoint (idxs.map (fun j => (node (F := F) j, evalPoly cs (node j) • Hm)))) := by
  rw [recover_signature cs hcs idxs hnd hlen]
  exact verify_recovered e g₁ Hm _

/-- For a pairing that is non-degenerate in its second argument at the generator,
a valid signature is unique — which is why every node, whatever subset it combined, holds the
same 96 bytes, and why the export may take any entry -/
theorem unique_sig (e : G₁ →ₗ[F] G₂ →ₗ[F] GT) (g₁ pk : G₁) (Hm σ σ' : G₂)
    (hnondeg : ∀ x : G₂, e g₁ x = 0 → x = 0)
    (h : verify e g₁ pk Hm σ) (h' : verify e g₁ pk Hm σ') : σ = σ' := by
  unfold verify at h h'
  have : e g₁ (σ - σ') = 0 := by rw [map_sub, h, h', sub_self]
  exact sub_eq_zero.mp (hnondeg _ this)

end Signatures

/-- non-vacuity: `F = ℚ`, `n = 5`, `t = 3`, signers 4, 0, 2 (in that order) -/
example : recoverAtZero ([4, 0, 2].map (fun j => (node (F := ℚ) j, evalPoly [7, 3, 5] (node j)))) = 7 := by
  have := recover_shares (F := ℚ) [7, 3, 5] (by simp) [4, 0, 2] (by simp [node]) (by simp)
  simpa [evalPoly] using this

end Dc4bcVerif.Props.C01
