/-
  C11 — a dealer whose private deal contradicts its public commitments is caught.

  The check of a deal is modelled in `Model/Shamir.lean` (`acceptDeal`, at the level of exponents) and
  abstractly here over any group (`AcceptDeal`). What is proved:
  * an accepted deal is consistent with the dealer's BROADCAST commitments (`accepted_consistent`), so a
    round in which every deal was accepted has every share on the sum of the broadcast vectors (C02);
  * every deviation of the broadcast vector from the one in the deal — any coefficient, the length — is
    refused (`any_coefficient_matters`, `length_matters`), and comparing only the constant term is NOT
    enough (`constant_term_check_insufficient`: the explicit counterexample behind seeded change C11a), and neither is
    checking the share against the broadcast vector (`share_check_insufficient`: seeded change C11c);
  * an error report of any participant cancels the round on the node that processes it, in every phase
    of key generation (C05.error_report_cancels), and a cancelled round never yields an operation, hence
    never a master-key step and never a stored share (`cancelled_never_asks_for_keys`).
  Undecryptable / malformed ciphertexts are library behaviour (ECIES, JSON): covered by the deviating-dealer
  scenarios on real machines only.
-/
import Mathlib.Algebra.Module.Basic
import Dc4bcVerif.Model.Shamir
import Dc4bcVerif.Props.C02
import Dc4bcVerif.Props.C05
import Dc4bcVerif.Gen.NodeGlue

namespace Dc4bcVerif.Props.C11
open Dc4bcVerif.Model Dc4bcVerif.Gen

variable {F : Type} [Field F] {G : Type} [AddCommGroup G] [Module F G]

/-- the addressee's check over an arbitrary group: the commitments inside the deal are the broadcast ones,
and the share verifies against them -/
def AcceptDeal (g : G) (broadcast inDeal : List G) (x share : F) : Prop :=
  broadcast = inDeal ∧ C02.evalCommit inDeal x = share • g

theorem accepted_consistent (g : G) (broadcast inDeal : List G) (x share : F) (h : AcceptDeal g broadcast inDeal x share) :
    C02.evalCommit broadcast x = share • g := by
  rw [h.1]; exact h.2

theorem any_coefficient_matters (g : G) (broadcast inDeal : List G) (x share : F) (k : ℕ)
    (hk : broadcast[k]? ≠ inDeal[k]?) : ¬ AcceptDeal g broadcast inDeal x share := by
  intro h; rw [h.1] at hk; exact hk rfl

theorem length_matters (g : G) (broadcast inDeal : List G) (x share : F)
    (hl : broadcast.length ≠ inDeal.length) : ¬ AcceptDeal g broadcast inDeal x share := by
  intro h; rw [h.1] at hl; exact hl rfl

/-- the weakened check of seeded change C11a: same length, same constant term -/
def WeakAccept (g : G) (broadcast inDeal : List G) (x share : F) : Prop :=
  broadcast.length = inDeal.length ∧ broadcast.head? = inDeal.head? ∧ C02.evalCommit inDeal x = share • g

/-- Comparing length and constant term only lets through a deal that
contradicts the broadcast commitments: with `g ≠ 0`, broadcast `[0, g]` against a deal on `[0, 0]`. -/
theorem constant_term_check_insufficient (g : G) (hg : g ≠ 0) :
    ∃ (broadcast inDeal : List G) (x share : F),
      WeakAccept g broadcast inDeal x share ∧ C02.evalCommit broadcast x ≠ share • g := by
  refine ⟨[0, g], [0, 0], 1, 0, ⟨rfl, rfl, ?_⟩, ?_⟩
  · simp [C02.evalCommit]
  · simp [C02.evalCommit, hg]

/-- the weakened check of seeded change C11c: same length, and the SHARE verifies against the broadcast commitments
(nothing ties the commitments inside the deal to the broadcast ones except their value at the addressee's point) -/
def ShareOnlyAccept (g : G) (broadcast inDeal : List G) (x share : F) : Prop :=
  broadcast.length = inDeal.length ∧ C02.evalCommit broadcast x = share • g ∧ C02.evalCommit inDeal x = share • g

/-- Checking the share against the broadcast commitments (and the deal against itself)
lets through a deal whose commitments are those of ANOTHER polynomial, one that agrees with the broadcast polynomial
at the addressee's point only: broadcast `[g, 0]` (the constant `1`), deal `[0, g]` (the polynomial `x`), at `x = 1`
with share `1`. The addressee would go on with commitments nobody else has. -/
theorem share_check_insufficient (g : G) (hg : g ≠ 0) :
    ∃ (broadcast inDeal : List G) (x share : F),
      ShareOnlyAccept g broadcast inDeal x share ∧ broadcast ≠ inDeal ∧ ¬ AcceptDeal g broadcast inDeal x share := by
  refine ⟨[g, 0], [0, g], 1, 1, ⟨rfl, ?_, ?_⟩, ?_, ?_⟩
  · simp [C02.evalCommit]
  · simp [C02.evalCommit]
  · intro h; simp at h; exact hg h.1
  · intro h; have := h.1; simp at this; exact hg this.1

/-- the executable check used by the driver is the exponent-level instance of `AcceptDeal` -/
theorem acceptDeal_iff [DecidableEq F] (broadcast inDeal : List F) (x share : F) :
    Shamir.acceptDeal broadcast inDeal x share = true ↔ broadcast = inDeal ∧ Shamir.evalPoly inDeal x = share := by
  unfold Shamir.acceptDeal; simp

theorem deviating_broadcast_refused [DecidableEq F] (broadcast real : List F) (x : F) (h : broadcast ≠ real) :
    Shamir.acceptDeal broadcast real x (Shamir.evalPoly real x) = false := by
  unfold Shamir.acceptDeal; simp [h]

theorem honest_deal_accepted [DecidableEq F] (real : List F) (x : F) :
    Shamir.acceptDeal real real x (Shamir.evalPoly real x) = true := by
  unfold Shamir.acceptDeal; simp

/-- No cancelled state is one for which a node creates an operation: once an
error report has cancelled the round, no participant is ever asked for the master-key step, the only step in which
an airgapped machine stores a key share (`handleStateDkgMasterKeyAwaitConfirmations`). Over the generated state
list and the generated operation-state list. -/
theorem cancelled_never_asks_for_keys :
    ∀ s ∈ Gen.St.all, Model.cancelledSt s = true → Gen.NodeGlue.operationStates.contains s.name = false := by
  decide +kernel

/-- an accepted error report cancels the round (commits phase shown; the other three phases are the other
conjuncts of `C05.error_report_cancels`) -/
theorem error_report_cancels (p : Payload) (a : Arg)
    (h : (doEvent dkgMachine runAction sCommitsAwait p eCommitsErr a).res = .ok) :
    C05.cancelled (doEvent dkgMachine runAction sCommitsAwait p eCommitsErr a).state = true :=
  (C05.error_report_cancels p a).1 h

end Dc4bcVerif.Props.C11
