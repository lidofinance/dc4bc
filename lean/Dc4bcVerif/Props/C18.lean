/-
  C18 — no input can crash a node; rejected input is a no-op.

  What the theorems cover: the node's message path (`processMessage` / `ProcessMessage`), the answer
  path (`executeOperation`, `ApproveParticipation`), signature verification, and the proposal
  expansion (`TasksToMessages` / `ReconstructBakedMessage`, shared by node and airgapped machine).
  In the models a Go panic is an explicit outcome (`Outcome.panic`, `LookupRes.panic`, `Res.panic`), so
  "never panics" is a statement about a value. The airgapped machine's handlers are cryptographic
  library calls and are covered by fault injection on the real machine only (see DESIGN.md).

  `Props/C03.lean` and `Lemmas/BakedLemmas.lean` are imported because they open the definitions of the expansion by their
  branches first (`fun_induction`, `fun_cases`; the header of `Lemmas/NoPanic.lean` says why the order matters).
-/
import Dc4bcVerif.Lemmas.NodeLocal
import Dc4bcVerif.Lemmas.BakedLemmas
import Dc4bcVerif.Props.C03

namespace Dc4bcVerif.Props.C18
open Dc4bcVerif.Gen Dc4bcVerif.Model Dc4bcVerif.Model.Node Dc4bcVerif.Lemmas.NodeLocal

def preSt : Pre → NodeSt
  | .swallow s => s
  | .fail s => s
  | .cont s _ => s

theorem preSteps_st (st : NodeSt) (inst : Instance) (m : NMsg) (now : Time) : preSt (preSteps st inst m now) = st := by
  rcases preSteps_thread inst m now with h | h | ⟨_, _, _, _, h⟩ <;> rw [h] <;> rfl

theorem getInstance_st (st st1 : NodeSt) (round : String) (inst : Instance) (h : getInstance st round = some (st1, inst)) :
    st1 = st :=
  (getInstance_some h).1

/-- **reject_is_noop (message handling).** Whatever the message and whatever the node holds: if handling
ends with anything but success (an error, or the model's stand-in for a crash), the node state —
every round, the operation pool, the tombstones, the signature store — is the value it was before.
All effects of a message are written together at the end of a successful handling. -/
theorem reject_is_noop (st : NodeSt) (m : NMsg) (now : Time) (payloadOf : Tasks.Msg → Bytes)
    (h : (processMessage st m now payloadOf).out ≠ .ok) : (processMessage st m now payloadOf).st = st :=
  (processMessage_step m (ViewEq.refl _ st) now payloadOf).noop h

/-- `ProcessMessage` as a whole: the operation is stored together with the round state at the successful end
(an identical pending operation is tolerated), so an unsuccessful end leaves the state as it was — no exception. -/
theorem top_reject_is_noop (st : NodeSt) (m : NMsg) (now : Time) (payloadOf : Tasks.Msg → Bytes)
    (h : (processMessageTop st m now payloadOf).out ≠ .ok) :
    (processMessageTop st m now payloadOf).st = st := by
  revert h
  fun_cases processMessageTop st m now payloadOf
  case case1 hout => exact fun h => absurd hout h
  case case2 => exact reject_is_noop st m now payloadOf

/-- a refused operation result (unknown / retired id, altered type or payload, request returned instead
of a result) changes nothing and posts nothing -/
theorem exec_refused_is_noop (st : NodeSt) (sub : SubOp) (h : execGuard st sub = none) :
    (executeOperation st sub).st = st ∧ (executeOperation st sub).posted = [] ∧ (executeOperation st sub).out = .reject := by
  unfold executeOperation; simp [h]

/-- **the answer path never panics** (a request body on the local API): whatever result is submitted in whatever node
state, `executeOperation` ends with success or an error. Before fix 2fefb3d a result with the event
`operation_processed_successfully` for an operation of a round without a key-generation part (a pending invitation; a
round re-initialised from an empty message list) dereferenced a nil payload: the model said `.panic` there and the real
node did panic (nodediff `invitation-as-processed`). -/
theorem exec_never_panics (st : NodeSt) (sub : SubOp) : (executeOperation st sub).out ≠ .panic :=
  executeOperation_ne_panic st sub

/-- and a result refused for that reason changes nothing -/
theorem exec_processed_without_keygen_is_noop (st : NodeSt) (sub : SubOp) (stored : NOp) (ds : _) (p : _)
    (hr : lookupS st.rounds sub.round = some (ds, p)) (hp : p.dkg = none) :
    (execReinit st sub stored).st = st ∧ (execReinit st sub stored).out ≠ .ok := by
  unfold execReinit
  simp only [hr]
  split
  · exact ⟨rfl, by simp⟩
  · simp [hp]

theorem approve_refused_is_noop (st : NodeSt) (idOf : Option NOp) (h : (approveParticipation st idOf).out ≠ .ok) :
    (approveParticipation st idOf).st = st := by
  -- every branch either hands the state back or ends with ok
  revert h
  fun_cases approveParticipation st idOf
  all_goals first | exact fun _ => rfl | exact fun h => absurd rfl h

/-- signature verification never panics (wrong-sized registered keys are refused: fix 7248992) -/
theorem verify_never_panics (st : NodeSt) (inst : Instance) (m : NMsg) : verifyMessage st inst m ≠ .panic :=
  verifyMessage_ne_panic st inst m

theorem rangeMsgs_never_panics (k : Nat) (i : Int) : Tasks.rangeMsgs k i ≠ .error .panic := by
  fun_induction Tasks.rangeMsgs k i
  case case3 hk ih => exact fun he => ih (hk.trans he)
  case case4 => exact fun he => Tasks.reconstructBaked_ne_panic _ (Except.error.inj he)
  all_goals nofun

/-- **expansion_never_panics**: the expansion of a proposal into messages — run by every node on every
proposal and by every airgapped machine on every signing request — ends with a list or an error for
every task list: reversed, negative, empty and astronomically large ranges included -/
theorem expansion_never_panics (ts : List Task) : Tasks.tasksToMessages ts ≠ .error .panic := by
  fun_induction Tasks.tasksToMessages ts
  case case3 t _ e ht _ =>
    intro he
    rw [Except.error.inj he] at ht
    revert ht
    fun_cases Tasks.taskMsgs t
    · nofun
    · exact rangeMsgs_never_panics _ _
  case case4 hk _ ih => exact fun he => ih (hk.trans he)
  all_goals nofun

theorem reversed_range_empty (t : Task) (hp : t.payload = none) (h : t.rangeEnd ≤ t.rangeStart) : Tasks.taskMsgs t = .ok [] := by
  unfold Tasks.taskMsgs
  have : (t.rangeEnd - t.rangeStart).toNat = 0 := by omega
  simp [hp, this, Tasks.rangeMsgs]

/-- the node model can panic only inside an FSM callback (a missing payload part) or when writing the
polynomial of a re-initialised round: every other step returns ok or reject -/
theorem panic_only_from_callbacks (st : NodeSt) (m : NMsg) (now : Time) (payloadOf : Tasks.Msg → Bytes)
    (h : (processMessage st m now payloadOf).out = .panic) :
    ∃ inst inst2 ev arg, getInstance st m.round = some (st, inst) ∧ preSteps st inst m now = .cont st inst2 ∧
      doPanics inst2 ev arg = true ∧ (ev.name == m.event) = true := by
  revert h
  refine processMessage_cases (P := fun r => r.out = .panic → _) st m now payloadOf (rejected := nofun)
    (saved := fun _ _ _ _ _ _ _ => nofun) (quiet := fun _ _ _ _ => nofun) (applied := ?_)
  intro inst inst2 ev ha _ _ hpre hf _ _
  exact ⟨fun hdp _ => ⟨inst, inst2, ev, _, ha.loaded, hpre, hdp, by simpa using List.find?_some hf⟩,
    fun i3 o3 _ hp => absurd hp (afterDo_ne_panic st i3 o3 m now payloadOf)⟩

/-- non-vacuity: a rejected message on a state that holds a round -/
example : (processMessage { self := "n", rounds := [("r", (none, { dkgId := "r" }))] }
    { round := "r", event := "event_bogus", sender := "x", recipient := "", arg := none, validKeys := [] } 0 (fun _ => [])).out ≠ .ok := by
  decide

end Dc4bcVerif.Props.C18
