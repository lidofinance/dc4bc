/-
  C13, the assumption discharged at the level of the round machines: an event that a round accepted is REFUSED when
  it is applied to the result a second time (`fsm_reapply`, `instance_reapply`). This is what makes handling a
  board message again after a crash harmless: the second handling is a rejection, and a rejection writes nothing
  (C18).

  For every public event of the three generated tables, and every payload whatsoever (no reachability assumption):
  * most events are refused by the table in every state that one `Do` can reach from one of their sources
    (`deadEvent`, decided on the generated tables);
  * the twelve others (confirmations, error reports, partial signatures — their row is a self-loop) are refused by
    their callback: the first application moves the participant's status away from the awaited one, the after-auto
    validator never moves it back, and the callback accepts only the awaited status.
  The time-out branch of an invitation answer leaves the payload alone and is covered by the table (the round is
  then cancelled); that the answer is not accepted again otherwise needs the deadline constant to be non-negative,
  read off fsm/config by the translator.
-/
import Dc4bcVerif.Lemmas.Reapply
import Dc4bcVerif.Lemmas.SignPhase
import Dc4bcVerif.Lemmas.Pool

namespace Dc4bcVerif.Props.C13Fsm
open Dc4bcVerif.Model Dc4bcVerif.Gen Dc4bcVerif.Props

abbrev Reapply (m : MachineDesc) (e : Ev) : Prop :=
  ∀ (a : Arg) (cur : St) (p : Payload), (doEvent m runAction cur p e a).res = .ok →
    (doEvent m runAction (doEvent m runAction cur p e a).state (doEvent m runAction cur p e a).payload e a).res = .err

theorem never_ok (mid : MachineId) (e : Ev) (aid : ActionId) (hcb : callbackOf (machineOf mid) e = some aid) (a : Arg)
    (h : ∀ p, runAction aid e p a = aErr p) {cur : St} {p : Payload}
    (hok : (doEvent (machineOf mid) runAction cur p e a).res = .ok) : False := by
  rw [doEvent_refused _ runAction e a (no_before_auto mid) aid hcb cur p (Or.inl (by rw [h]; rfl))] at hok
  cases hok

/-! The predicates `Q` handed to `doEvent_reapply`: the part of the payload the callback works on is there (so it does
not panic), and in it the participant is no longer in the status the callback asks for. -/

/-- participant `pid` has answered the invitation, and its answer is not older than the deadline allows at time `ts` -/
def QSig (pid : Int) (ts : Time) (p : Payload) : Prop :=
  p.sig.isSome = true ∧ ∀ sc, p.sig = some sc → ∀ part, getAt sc.quorum pid = some part →
    part.status ≠ 0 ∧ ¬ (part.updatedAt + Config.signatureProposalConfirmationDeadline < ts)

theorem deadline_nonneg : (0 : Int) ≤ Config.signatureProposalConfirmationDeadline := by decide

theorem sig_resp_reapply (e : Ev) (he : e = .e_event_sig_proposal_confirm_by_participant ∨ e = .e_event_sig_proposal_decline_by_participant) :
    Reapply sigMachine e := by
  intro a cur p hok
  have hcb : callbackOf sigMachine e = some .sig_actionProposalResponseByParticipant := by
    rcases he with rfl | rfl
    · exact sig_cb_confirm
    · exact sig_cb_decline
  cases a with
  | sigPart pid ts =>
    refine doEvent_reapply sigMachine runAction e _ (no_before_auto .sig) _ hcb (QSig pid ts)
      (fun p hq => runAction_no_panic _ e p _ hq.1) (fun p hr => ?_) ?_ cur p hok
    · -- an accepted answer is late and cancels the round, or comes from a member still awaited and marks it as answered
      simp only [runAction] at hr ⊢
      rcases sigResp_cases e p (.sigPart pid ts) with h | ⟨_, h⟩ |
        ⟨pid', ts', sc, part, ha, hs, hg, ⟨hto, h⟩ | ⟨hto, hst, st, hst', h⟩⟩ <;> rw [h] at hr ⊢
      · cases hr
      · cases hr
      · cases ha
        exact ⟨fun hq => (hq.2 sc hs part hg).2 hto, .inr ⟨_, rfl, by rcases he with rfl | rfl <;> decide⟩⟩
      · cases ha
        refine ⟨fun hq => (hq.2 sc hs part hg).1 hst, .inl ⟨rfl, ?_⟩⟩
        intro sc' hsc' part' hg'
        cases hsc'
        rw [getAt_setAt_self _ _ _ _ hg] at hg'
        cases hg'
        exact ⟨by rcases hst' with ⟨_, rfl⟩ | ⟨_, rfl⟩ <;> simp, Int.not_lt.mpr (Int.le_add_of_nonneg_right deadline_nonneg)⟩
    · -- the validator leaves the payload alone
      intro ev vid hmem p hq
      have hv : ∀ x ∈ autoAfter sigMachine e, x.2 = some .sig_actionValidateSignatureProposal := by
        rcases he with rfl | rfl <;> decide
      cases Option.some.inj (hv _ hmem)
      show QSig pid ts (sig_actionValidateSignatureProposal ev p (.sigPart pid ts)).payload
      fun_cases sig_actionValidateSignatureProposal ev p (.sigPart pid ts) <;> exact hq
  | _ => exact (never_ok .sig e _ hcb _ (fun _ => rfl) hok).elim  -- any other argument is refused the first time already

def QDkg (awaitSt : Nat) (pid : Int) (p : Payload) : Prop :=
  p.dkg.isSome = true ∧ ∀ dc, p.dkg = some dc → ∀ part, getAt dc.quorum pid = some part → part.status ≠ awaitSt

theorem QDkg_setAt {awaitSt : Nat} {pid : Int} {p : Payload} {dc dc' : DkgConf} {part part' : DkgPart}
    (hg : getAt dc.quorum pid = some part) (hq : dc'.quorum = setAt dc.quorum pid part') (hne : part'.status ≠ awaitSt) :
    QDkg awaitSt pid { p with dkg := some dc' } := by
  refine ⟨rfl, fun dc2 h2 part2 hg2 => ?_⟩
  cases h2
  rw [hq, getAt_setAt_self _ _ _ _ hg] at hg2
  cases hg2
  exact hne

theorem QDkg_map (awaitSt : Nat) (pid : Int) (p : Payload) (dc : DkgConf) (f : DkgPart → DkgPart) (st : Nat)
    (hf : ∀ q, (f q).status = st) (hne : st ≠ awaitSt) (dc' : DkgConf) (hq : dc'.quorum = dc.quorum.map f) :
    QDkg awaitSt pid { p with dkg := some dc' } := by
  refine ⟨rfl, fun dc2 h2 part hg => ?_⟩
  cases h2
  rw [hq, getAt_map] at hg
  obtain ⟨q0, _, rfl⟩ := Option.map_eq_some_iff.mp hg
  rw [hf]; exact hne

theorem dkgValidate_keeps (awaitSt : Nat) (pid : Int) (p : Payload) (errSt okSt nextAwait : Nat) (t1 t2 t3 : Ev)
    (mk : List DkgPart → RespData) (hne : nextAwait ≠ awaitSt) (hq : QDkg awaitSt pid p) :
    QDkg awaitSt pid (dkgValidate p errSt okSt nextAwait t1 t2 t3 mk).payload := by
  rcases dkgValidate_cases p errSt okSt nextAwait t1 t2 t3 mk with
    ⟨_, h⟩ | ⟨dc, hd, ⟨_, h⟩ | ⟨_, _, h⟩ | ⟨_, _, _, h⟩ | ⟨_, _, _, _, h⟩⟩ <;> rw [h]
  · exact hq
  · exact hq
  · exact hq
  · exact hq
  · exact QDkg_map awaitSt pid p dc _ nextAwait (fun _ => rfl) hne _ rfl

theorem mkValidate_keeps (awaitSt : Nat) (pid : Int) (p : Payload) (e : Ev) (a : Arg) (h10 : 10 ≠ awaitSt) (h11 : 11 ≠ awaitSt)
    (hq : QDkg awaitSt pid p) : QDkg awaitSt pid (dkg_actionValidateDkgProposalAwaitMasterKey e p a).payload := by
  rcases mkValidate_cases e p a with
    ⟨_, h⟩ | ⟨dc, hd, ⟨_, h⟩ | ⟨_, _, h⟩ | ⟨_, _, _, h⟩ | ⟨_, _, _, _, h⟩ | ⟨_, _, _, _, h⟩⟩ <;> rw [h]
  · exact hq
  · exact hq
  · exact hq
  · exact QDkg_map awaitSt pid p dc _ 11 (fun _ => rfl) h11 _ rfl
  · exact hq
  · exact QDkg_map awaitSt pid p dc _ 10 (fun _ => rfl) h10 _ rfl

/-- the awaited status of the phase a confirmation or an error report of the key generation belongs to -/
def phaseAwait (e : Ev) : Option Nat :=
  if e = .e_event_dkg_commit_confirm_received ∨ e = .e_event_dkg_commit_confirm_canceled_by_error then some 0
  else if e = .e_event_dkg_deal_confirm_received ∨ e = .e_event_dkg_deal_confirm_canceled_by_error then some 3
  else if e = .e_event_dkg_response_confirm_received ∨ e = .e_event_dkg_response_confirm_canceled_by_error then some 6
  else if e = .e_event_dkg_master_key_confirm_received ∨ e = .e_event_dkg_master_key_confirm_canceled_by_error then some 9
  else none

/-- the statuses an after-auto validator of the key generation writes -/
def validatorWrites : ActionId → Option (List Nat)
  | .dkg_actionValidateDkgProposalAwaitCommits => some [3]
  | .dkg_actionValidateDkgProposalAwaitDeals => some [6]
  | .dkg_actionValidateDkgProposalAwaitResponses => some [9]
  | .dkg_actionValidateDkgProposalAwaitMasterKey => some [10, 11]
  | _ => none

/-- a check on the generated table: after a confirmation or an error report only validators run — those of its own
phase and of the next — and none of them writes the status the event awaits -/
theorem validators_avoid : ∀ e ∈ Ev.all, ∀ st ∈ phaseAwait e, ∀ x ∈ autoAfter dkgMachine e,
    ∃ ws ∈ x.2.bind validatorWrites, st ∉ ws := by
  decide

theorem dkg_validators_keep {e : Ev} {awaitSt : Nat} (hph : phaseAwait e = some awaitSt) (pid : Int) (a : Arg) :
    ∀ ev vid, (ev, some vid) ∈ autoAfter dkgMachine e → ∀ p, QDkg awaitSt pid p → QDkg awaitSt pid (runAction vid ev p a).payload := by
  intro ev vid hmem p hq
  obtain ⟨ws, hws, hw⟩ := validators_avoid e (Ev.mem_all e) awaitSt hph _ hmem
  have hws : validatorWrites vid = some ws := hws
  -- only the four validators write anything; `hw` says that none of what `vid` writes is the awaited status
  match vid, hws with
  | .dkg_actionValidateDkgProposalAwaitCommits, rfl =>
    exact dkgValidate_keeps awaitSt pid p _ _ 3 _ _ _ _ (fun h => hw (by simp [h])) hq
  | .dkg_actionValidateDkgProposalAwaitDeals, rfl =>
    exact dkgValidate_keeps awaitSt pid p _ _ 6 _ _ _ _ (fun h => hw (by simp [h])) hq
  | .dkg_actionValidateDkgProposalAwaitResponses, rfl =>
    exact dkgValidate_keeps awaitSt pid p _ _ 9 _ _ _ _ (fun h => hw (by simp [h])) hq
  | .dkg_actionValidateDkgProposalAwaitMasterKey, rfl =>
    exact mkValidate_keeps awaitSt pid p ev a (fun h => hw (by simp [h])) (fun h => hw (by simp [h])) hq

/-- an event of the key generation that is accepted only from a participant in the awaited status of its phase, and
then moves that status on or ends the round -/
theorem dkg_answer_reapply (e : Ev) (aid : ActionId) (hcb : callbackOf dkgMachine e = some aid) (awaitSt : Nat)
    (hph : phaseAwait e = some awaitSt) (a : Arg) (pid : Int)
    (hspec : ∀ p, (runAction aid e p a).res = .ok → ∃ dc part, p.dkg = some dc ∧ getAt dc.quorum pid = some part ∧
      part.status = awaitSt ∧ (QDkg awaitSt pid (runAction aid e p a).payload ∨
        ∃ ev, (runAction aid e p a).outEvent = some ev ∧ deadVia dkgMachine e ev = true))
    (cur : St) (p : Payload) (hok : (doEvent dkgMachine runAction cur p e a).res = .ok) :
    (doEvent dkgMachine runAction (doEvent dkgMachine runAction cur p e a).state (doEvent dkgMachine runAction cur p e a).payload e a).res = .err := by
  refine doEvent_reapply dkgMachine runAction e a (no_before_auto .dkg) aid hcb (QDkg awaitSt pid)
    (fun p hq => runAction_no_panic aid e p a (safeFor_reads .dkg aid (callbackOf_mem hcb) p hq.1)) (fun p hr => ?_)
    (dkg_validators_keep hph pid a) cur p hok
  obtain ⟨dc, part, hd, hg, hst, h⟩ := hspec p hr
  exact ⟨fun hq => hq.2 dc hd part hg hst, h⟩

theorem received_reapply (ph : DkgPhase) (hph : phaseAwait ph.eOk = some ph.await) : Reapply dkgMachine ph.eOk := by
  intro a cur p hok
  rcases ph.run_ok a with h | ⟨pid, data, ts, upd, _, h⟩
  · exact (never_ok .dkg _ _ ph.cb_ok a (fun p => h _ p) hok).elim
  · refine dkg_answer_reapply _ _ ph.cb_ok _ hph a pid (fun p hr => ?_) cur p hok
    rw [h] at hr ⊢
    rcases dkgReceived_cases p pid ts data.isEmpty ph.await ph.ok upd with
      h' | ⟨_, h'⟩ | ⟨dc, part, hd, hg, hst, _, _, h'⟩ <;> rw [h'] at hr ⊢
    · cases hr
    · cases hr
    · exact ⟨dc, part, hd, hg, hst, .inl (QDkg_setAt hg rfl ph.statuses.1.symm)⟩

theorem dkg_error_reapply (e : Ev) (awaitSt : Nat) (hph : phaseAwait e = some awaitSt)
    (hcb : callbackOf dkgMachine e = some .dkg_actionConfirmationError) : Reapply dkgMachine e := by
  intro a cur p hok
  cases a with
  | dkgErr pid err ts =>
    refine dkg_answer_reapply e _ hcb awaitSt hph _ pid (fun p hr => ?_) cur p hok
    simp only [runAction] at hr ⊢
    rcases dkgConfError_cases e p (.dkgErr pid err ts) with h | ⟨_, h⟩ |
      ⟨pid', err', ts', dc, part, st, errSt, ha, hd, hg, hst, hev, h⟩ <;> rw [h] at hr ⊢
    · cases hr
    · cases hr
    · cases ha
      -- the awaited and the error status the callback takes for `e` are those of `e`'s phase
      have hst' : st = awaitSt ∧ errSt ≠ awaitSt := by
        rcases hev with ⟨rfl, rfl, rfl⟩ | ⟨rfl, rfl, rfl⟩ | ⟨rfl, rfl, rfl⟩ | ⟨rfl, rfl, rfl⟩ <;> cases hph <;> exact ⟨rfl, by decide⟩
      exact ⟨dc, part, hd, hg, hst.trans hst'.1, .inl (QDkg_setAt hg rfl hst'.2)⟩
  | _ => exact (never_ok .dkg e _ hcb _ (fun _ => rfl) hok).elim

theorem mk_reapply : Reapply dkgMachine .e_event_dkg_master_key_confirm_received := by
  intro a cur p hok
  cases a with
  | masterKey pid key ts poly =>
    refine dkg_answer_reapply _ .dkg_actionMasterKeyConfirmationReceived mk_cb_ok 9 (by decide) _ pid (fun p hr => ?_) cur p hok
    simp only [runAction] at hr ⊢
    rcases mkReceived_cases _ p (.masterKey pid key ts poly) with h | ⟨_, h⟩ |
      ⟨pid', key', ts', poly', dc, part, ha, hd, hg, hst, ⟨_, _, h⟩ | ⟨_, h⟩⟩ <;> rw [h] at hr ⊢
    · cases hr
    · cases hr
    · -- a differing polynomial: the round is cancelled
      cases ha
      exact ⟨dc, part, hd, hg, hst, .inr ⟨_, rfl, by decide⟩⟩
    · cases ha
      exact ⟨dc, part, hd, hg, hst, .inl (QDkg_setAt hg rfl (by simp))⟩
  | _ => exact (never_ok .dkg _ .dkg_actionMasterKeyConfirmationReceived mk_cb_ok _ (fun _ => rfl) hok).elim

def QSign (pid : Int) (p : Payload) : Prop :=
  (p.sign.isSome = true ∧ p.sig.isSome = true) ∧
    ∀ sc, p.sign = some sc → ∀ part, getAt sc.quorum pid = some part → part.status ≠ 0

theorem QSign_setAt {pid : Int} {p : Payload} {sc sc' : SignConf} {sg : SigConf} {part part' : SignPart}
    (hg : getAt sc.quorum pid = some part) (hq : sc'.quorum = setAt sc.quorum pid part') (hne : part'.status ≠ 0) :
    QSign pid { p with sign := some sc', sig := some sg } := by
  refine ⟨⟨rfl, rfl⟩, fun sc2 h2 part2 hg2 => ?_⟩
  cases h2
  rw [hq, getAt_setAt_self _ _ _ _ hg] at hg2
  cases hg2
  exact hne

theorem signValidate_keeps (pid : Int) (p : Payload) (e : Ev) (a : Arg) (hq : QSign pid p) :
    QSign pid (sign_actionValidateSigningPartialSignsAwaitConfirmations e p a).payload := by
  fun_cases sign_actionValidateSigningPartialSignsAwaitConfirmations e p a
  case case5 =>  -- enough confirmations: every status becomes 3
    refine ⟨⟨rfl, hq.1.2⟩, fun sc' h' part hg => ?_⟩
    cases h'
    rw [getAt_map] at hg
    obtain ⟨q0, _, rfl⟩ := Option.map_eq_some_iff.mp hg
    exact Nat.succ_ne_zero 2
  all_goals exact hq

/-- an answer to a batch: accepted only from a participant still awaited, whose status it moves on -/
theorem sign_answer_reapply (e : Ev) (aid : ActionId) (hcb : callbackOf signMachine e = some aid)
    (hval : (autoAfter signMachine e).all (fun x => x.2 == some .sign_actionValidateSigningPartialSignsAwaitConfirmations) = true)
    (a : Arg) (pid : Int) (hnp : ∀ p, p.sign.isSome = true ∧ p.sig.isSome = true → (runAction aid e p a).res ≠ .panic)
    (hspec : ∀ p, (runAction aid e p a).res = .ok → ∃ sc part, p.sign = some sc ∧
      getAt sc.quorum pid = some part ∧ part.status = 0 ∧ QSign pid (runAction aid e p a).payload)
    (cur : St) (p : Payload) (hok : (doEvent signMachine runAction cur p e a).res = .ok) :
    (doEvent signMachine runAction (doEvent signMachine runAction cur p e a).state (doEvent signMachine runAction cur p e a).payload e a).res = .err := by
  refine doEvent_reapply signMachine runAction e a (no_before_auto .sign) aid hcb (QSign pid) (fun p hq => hnp p hq.1)
    (fun p hr => ?_) ?_ cur p hok
  · obtain ⟨sc, part, hs, hg, hst, h⟩ := hspec p hr
    exact ⟨fun hq => hq.2 sc hs part hg hst, .inl h⟩
  · intro ev vid hmem p hq
    cases Option.some.inj (beq_iff_eq.mp (List.all_eq_true.mp hval _ hmem))
    exact signValidate_keeps pid p ev a hq

theorem partial_sign_reapply : Reapply signMachine .e_event_signing_partial_sign_received := by
  intro a cur p hok
  cases a with
  | partialSigns b pid signs ts =>
    refine sign_answer_reapply _ .sign_actionPartialSignConfirmationReceived sign_cb_received (by decide) _ pid
      (fun p hs => runAction_no_panic _ _ p _ hs) (fun p hr => ?_) cur p hok
    obtain ⟨-, -, -, hacc⟩ := sign_received_spec p .e_event_signing_partial_sign_received (.partialSigns b pid signs ts)
    obtain ⟨b', pid', signs', ts', sc, part, sg, ps, ha, hs, hsg, -, hg, hst, hpl⟩ := hacc hr
    cases ha
    refine ⟨sc, part, hs, hg, hst, ?_⟩
    show QSign pid (sign_actionPartialSignConfirmationReceived _ p _).payload
    exact hpl ▸ QSign_setAt hg rfl (by simp)
  | _ => exact (never_ok .sign _ .sign_actionPartialSignConfirmationReceived sign_cb_received _ (fun _ => rfl) hok).elim

theorem sign_error_reapply : Reapply signMachine .e_event_signing_partial_sign_error_received := by
  intro a cur p hok
  cases a with
  | signErr pid err ts =>
    refine sign_answer_reapply _ .sign_actionConfirmationError sign_cb_signerr (by decide) _ pid
      (fun p hs => runAction_no_panic _ _ p _ hs) (fun p hr => ?_) cur p hok
    obtain ⟨-, -, -, hacc⟩ := sign_signerr_spec p (.signErr pid err ts)
    obtain ⟨pid', err', ts', sc, part, sg, ha, hs, hsg, hg, hst, hpl⟩ := hacc hr
    cases ha
    refine ⟨sc, part, hs, hg, hst, ?_⟩
    show QSign pid (sign_actionConfirmationError _ p _).payload
    exact hpl ▸ QSign_setAt hg rfl (by simp)
  | _ => exact (never_ok .sign _ .sign_actionConfirmationError sign_cb_signerr _ (fun _ => rfl) hok).elim

/-- the twelve events of the header, each with its machine: their row leads back to one of its own sources, so the table
accepts them again; their callback does not -/
def special : List (MachineId × Ev) := [
  (.sig, .e_event_sig_proposal_confirm_by_participant), (.sig, .e_event_sig_proposal_decline_by_participant),
  (.dkg, .e_event_dkg_commit_confirm_received), (.dkg, .e_event_dkg_commit_confirm_canceled_by_error),
  (.dkg, .e_event_dkg_deal_confirm_received), (.dkg, .e_event_dkg_deal_confirm_canceled_by_error),
  (.dkg, .e_event_dkg_response_confirm_received), (.dkg, .e_event_dkg_response_confirm_canceled_by_error),
  (.dkg, .e_event_dkg_master_key_confirm_received), (.dkg, .e_event_dkg_master_key_confirm_canceled_by_error),
  (.sign, .e_event_signing_partial_sign_received), (.sign, .e_event_signing_partial_sign_error_received)]

theorem special_reapply : ∀ x ∈ special, Reapply (machineOf x.1) x.2 := by
  intro x hx
  simp only [special, List.mem_cons, List.not_mem_nil, or_false] at hx
  rcases hx with rfl | rfl | rfl | rfl | rfl | rfl | rfl | rfl | rfl | rfl | rfl | rfl
  · exact sig_resp_reapply _ (.inl rfl)
  · exact sig_resp_reapply _ (.inr rfl)
  · exact received_reapply commitsPhase (by decide)
  · exact dkg_error_reapply _ 0 (by decide) commitsPhase.cb_err
  · exact received_reapply dealsPhase (by decide)
  · exact dkg_error_reapply _ 3 (by decide) dealsPhase.cb_err
  · exact received_reapply responsesPhase (by decide)
  · exact dkg_error_reapply _ 6 (by decide) responsesPhase.cb_err
  · exact mk_reapply
  · exact dkg_error_reapply _ 9 (by decide) mk_cb_err
  · exact partial_sign_reapply
  · exact sign_error_reapply

/-- classification of every public row of a machine, decided on the generated tables: one of the twelve self-loop
events, or refused by the table after one `Do` -/
theorem classified (mid : MachineId) : ∀ d ∈ (machineOf mid).events, d.isInternal = true ∨ (mid, d.name) ∈ special ∨
    deadEvent (machineOf mid) d.name = true := by
  cases mid <;> decide

/-- **Every event, every machine, every payload:** what `Do` accepted it refuses the second time. -/
theorem fsm_reapply (mid : MachineId) (e : Ev) : Reapply (machineOf mid) e := by
  intro a cur p hok
  -- an accepted event has a public row
  obtain ⟨d, hd, hn, _, hpub⟩ := doEvent_ok_row hok
  rcases classified mid d hd with h | hs | hdead
  · rw [hpub] at h; cases h
  · exact special_reapply (mid, e) (hn ▸ hs) a cur p hok
  · exact doEvent_reapply_table _ runAction e a (hn ▸ hdead) cur p (no_before_auto mid cur) hok

/-- **The same for a stored round**, as the node handles it: the round is dumped after the event, loaded again from
the dump (which may select another of the three machines — the hand-over states belong to two), and given the same
event with the same argument: it refuses. -/
theorem instance_reapply (i : Instance) (e : Ev) (a : Arg) (hok : (i.doEv e a).2.res = .ok)
    (r : Instance) (hr : Instance.restore (i.doEv e a).1.dumpState (i.doEv e a).1.payload = some r) :
    (r.doEv e a).2.res = .err := by
  -- the round loaded again is the result of the first `Do`, under the machine in charge of its state
  rw [doEv_fst hok, restore_eq] at hr
  cases hr
  by_cases hm : i.machine = owner (i.doEv e a).2.state
  · rw [doEv_snd, ← hm]
    exact fsm_reapply _ e a i.state i.payload hok
  · -- another machine: it has no row for an event of this one
    exact doEv_other_machine (doEvent_ok_reach _ runAction _ _ e a (no_before_auto _ _) hok).1 _ hm a

/-- non-vacuity: in a round with two invited participants the first confirmation is accepted (so the premise of
`instance_reapply` is met by a reachable round), the round can be loaded again from its dump, and — as the theorem
says — the same confirmation is then refused -/
def twoInvited : Instance := run (Instance.create "r")
  [(eSigInit, .sigInit [⟨"alice", [1,2,3,4,5,6,7,8,9,10], [1,2,3,4,5,6,7,8,9,10]⟩, ⟨"bobby", [1,2,3,4,5,6,7,8,9,10], [1,2,3,4,5,6,7,8,9,10]⟩] 2 1000)]

example : (twoInvited.doEv eSigConfirm (.sigPart 0 1001)).2.res = .ok := by decide +kernel
example : (Instance.restore (twoInvited.doEv eSigConfirm (.sigPart 0 1001)).1.dumpState
    (twoInvited.doEv eSigConfirm (.sigPart 0 1001)).1.payload).isSome = true := by decide +kernel
example : ∀ r, Instance.restore (twoInvited.doEv eSigConfirm (.sigPart 0 1001)).1.dumpState
    (twoInvited.doEv eSigConfirm (.sigPart 0 1001)).1.payload = some r → (r.doEv eSigConfirm (.sigPart 0 1001)).2.res = .err :=
  fun r hr => instance_reapply twoInvited eSigConfirm (.sigPart 0 1001) (by decide +kernel) r hr

/-! The start of a batch is the one event a round can accept again — not on the result of the first `Do` (`fsm_reapply`), but
after the node has put the round back to `idle`: for an arbitrary payload the same `Do` can end in a collected or a cancelled
batch, which the node restarts. The proposal then returns what it returned the first time, because it overwrites exactly
the fields it wrote then. -/

theorem start_action_again (p : Payload) (a : Arg) (hok : (sign_actionStartSigningProposal eSTART p a).res = .ok) (sc2 : SignConf)
    (b : String) (pid : Int) (ts : Time) (tasks : List Task) (sc : SignConf) (dc : DkgConf)
    (ha : a = .signStart b pid ts tasks) (hs : p.sign = some sc) (hd : p.dkg = some dc)
    (h2 : startedSign sc2 dc b pid ts tasks = startedSign sc dc b pid ts tasks) :
    sign_actionStartSigningProposal eSTART { p with sign := some sc2 } a = sign_actionStartSigningProposal eSTART p a := by
  subst ha
  unfold sign_actionStartSigningProposal at hok ⊢
  simp only [hs, hd] at hok ⊢
  split
  · rename_i hbad
    simp [hbad, aErr] at hok
  · unfold startedSign at h2
    rw [h2]

theorem start_do_again (p : Payload) (a : Arg) (hok : (doEvent signMachine runAction sIDLE p eSTART a).res = .ok) :
    doEvent signMachine runAction sIDLE (doEvent signMachine runAction sIDLE p eSTART a).payload eSTART a =
      doEvent signMachine runAction sIDLE p eSTART a := by
  obtain ⟨hok0, hdo⟩ := accepted_of_ite (sign_do_start p a) rfl hok
  obtain ⟨-, hacc⟩ := sign_start_spec p a
  obtain ⟨-, b, pid, ts, tasks, sc, dc, ha, hs, hd, -, hpl⟩ := hacc hok0
  -- the payload after the validator: the started signing part, possibly marked
  have hsign : (sign_actionStartSigningProposal eSTART p a).payload.sign = some (startedSign sc dc b pid ts tasks) := by rw [hpl]
  obtain ⟨sc2, hp2, h2⟩ : ∃ sc2, (signAfterValidate (sign_actionStartSigningProposal eSTART p a) a).payload = { p with sign := some sc2 } ∧
      startedSign sc2 dc b pid ts tasks = startedSign sc dc b pid ts tasks := by
    rcases signAfterValidate_payload _ a _ hsign with h | ⟨_, h⟩
    · exact ⟨startedSign sc dc b pid ts tasks, by rw [h, hpl], rfl⟩
    · exact ⟨markProcess (startedSign sc dc b pid ts tasks), by rw [h, hpl], rfl⟩
  rw [hdo, hp2, sign_do_start, start_action_again p a hok0 sc2 b pid ts tasks sc dc ha hs hd h2]
  simp only [hok0, bne_self_eq_false, Bool.false_eq_true, ↓reduceIte]

theorem start_again (i j : Instance) (a : Arg) (hm : i.machine = .sign) (hs : i.state = sIDLE) (hok : (i.doEv eSTART a).2.res = .ok)
    (hjm : j.machine = .sign) (hjs : j.state = sIDLE) (hjp : j.payload = (i.doEv eSTART a).1.payload) :
    j.doEv eSTART a = i.doEv eSTART a := by
  have hout : (j.doEv eSTART a).2 = (i.doEv eSTART a).2 := by
    rw [doEv_snd, hjm, hjs, hjp, doEv_fst hok, doEv_snd, hm, hs]
    exact start_do_again i.payload a (by rw [doEv_snd, hm, hs] at hok; exact hok)
  exact Prod.ext (by rw [doEv_fst (hout ▸ hok), doEv_fst hok, hout, hjm, hm]) hout

end Dc4bcVerif.Props.C13Fsm
