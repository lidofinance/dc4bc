/-
  C04 at the airgapped machine's deals step (`Model/AirDkg.lean`, tied by the `airdkg` stream, which opens every real deal
  with every machine's key and reports the index of the key that opens it):

  * `deal_goes_to_its_addressee`: if the participants' names are pairwise different, the deal for participant `j` is
    encrypted to the key registered at index `j` - the addressee's - and carries the dealer's polynomial evaluated at `j`'s
    node; nobody else's key opens it (the ciphertext is modelled by the index of the one key that does).
  * `same_name_same_key`: with two participants of ONE name the deal for the second is encrypted to the key of the first
    (`GetPubKeyByParticipant` looks the key up by name): the model keeps what the code does; look-alike names (seed C04f)
    are different names.
  * `own_share_not_dealt`: the machine's own share `f(pid)` is not among the deals of the result.
-/
import Dc4bcVerif.Lemmas.AirDkgSteps

-- every statement carries all instance binders of the `variable` line, whether it uses them or not
set_option linter.unusedSectionVars false

namespace Dc4bcVerif.Props.C04Air
open Dc4bcVerif.Model.Shamir Dc4bcVerif.Model.AirDkg Dc4bcVerif.Lemmas.AirDkgSteps

variable {F : Type} [Add F] [Mul F] [Sub F] [Div F] [Zero F] [One F] [DecidableEq F] [NatCast F]
variable {K : Type} [DecidableEq K]

theorem firstIdx_nodup (keys : List (String × K)) (j : Nat) (e : String × K) (hj : keys[j]? = some e)
    (hnd : (keys.map (·.1)).Nodup) : firstIdx (fun x : String × K => decide (x.1 = e.1)) keys = some j := by
  obtain ⟨hlt, rfl⟩ := List.getElem?_eq_some_iff.mp hj
  rw [firstIdx_eq, List.findIdx?_eq_some_iff_getElem]
  refine ⟨hlt, by simp, fun j' hj' => ?_⟩
  -- an earlier entry of the same name would be a second occurrence of the name
  have := List.pairwise_iff_getElem.mp hnd j' j (by simp; omega) (by simpa using hlt) hj'
  simpa using this

/-- the deals of an answered deals step, as the model lists them -/
def dealtTo (i : Inst F K) (j : Nat) : String × Option Nat × OuterDeal F :=
  let name := (i.keys[j]?.map (·.1)).getD ""
  (name, firstIdx (fun e : String × K => decide (e.1 = name)) i.keys, ownDeal i j)

theorem dealsOp_lists (m : Machine F K) (round : String) (entries : List (String × Option (List F))) (m' : Machine F K)
    (pid : Nat) (ds : List (String × Option Nat × OuterDeal F)) (self : String)
    (h : dealsOp m round entries = (m', Res.deals pid ds self)) :
    ∃ i, lookup round m'.insts = some i ∧ i.pid = pid ∧
      ds = ((List.range i.keys.length).filter (· ≠ i.pid)).map (dealtTo i) := by
  revert h
  fun_cases dealsOp m round entries
  case case4 =>
    intro h
    simp only [Prod.mk.injEq, Res.deals.injEq] at h
    obtain ⟨rfl, rfl, rfl, rfl⟩ := h
    exact ⟨_, lookup_put .., rfl, rfl⟩
  all_goals nofun
where
  lookup_put : ∀ (k : String) (v : Inst F K) (l : List (String × Inst F K)), lookup k (put k v l) = some v :=
    fun k v l => lookup_put_self k v l

theorem deal_goes_to_its_addressee (i : Inst F K) (j : Nat) (hj : j < i.keys.length) (hnd : (i.keys.map (·.1)).Nodup) :
    (dealtTo i j).2.1 = some j ∧
    (dealtTo i j).2.2.inner.map (fun d => (d.secI, d.secV)) = some (j, evalPoly i.poly (node j)) := by
  have he : i.keys[j]? = some i.keys[j] := by simp [hj]
  unfold dealtTo
  simp only [he, Option.map_some, Option.getD_some]
  exact ⟨firstIdx_nodup i.keys j i.keys[j] he hnd, rfl⟩

theorem own_share_not_dealt (i : Inst F K) : ∀ e ∈ ((List.range i.keys.length).filter (· ≠ i.pid)).map (dealtTo i),
    e.2.2.inner.map (·.secI) ≠ some i.pid := by
  intro e he
  simp only [List.mem_map, List.mem_filter, List.mem_range, decide_eq_true_eq] at he
  obtain ⟨j, ⟨_, hne⟩, rfl⟩ := he
  simp [dealtTo, ownDeal, hne]

/-- **same_name_same_key**: two participants of one name - the second one's deal is encrypted to the first one's key -/
example : (dealtTo ({ pid := 0, thr := 2, t := 2, keys := [("a", 1), ("b", 2), ("b", 3)], poly := [3, 5], vers := [] } : Inst Int Nat) 2).2.1 = some 1 := by
  decide

end Dc4bcVerif.Props.C04Air
