/-
  C20 / C08, node layer — the re-initialisation handler (`reinitDKG`, model `Model/NodeOps.lean reinitDKG`,
  tied by nodediff's `reinit` operations).

  * `reinit_existing_round_noop`: a reinit message for a round the node already holds changes nothing;
  * `reinit_other_rounds_untouched`: whatever the dump contains (messages of other rounds, junk, forged messages), the
    dumps and signature stores of all OTHER rounds are exactly what they were (C08 for the reinit path);
  * `reinit_loop_eq_consume`: for a dump without 0.1.4 patches, replaying it gives the round the view a node gets by
    consuming the same messages from the board one by one — the handler IS the ordinary message handler with the ordinary
    verification; with C08 `round_state_function_of_round_log` that is the view the original nodes had of the round after
    the same prefix of its log (same participants, threshold, statuses, contributions, public polynomial);
  * `reinit_keys`: on success the stored round is that replayed round with the new communication keys written over the
    old ones, saved under `dkg_id`.
-/
import Dc4bcVerif.Props.C08

namespace Dc4bcVerif.Props.C20Node
open Dc4bcVerif.Gen Dc4bcVerif.Model Dc4bcVerif.Model.Node Dc4bcVerif.Lemmas.NodeLocal Dc4bcVerif.Props

theorem reinit_existing_round_noop (st : NodeSt) (req : ReinitReq) (now : Time) (payloadOf : Tasks.Msg → Bytes)
    (hb : blankId req.dkgId = false) (h : (lookupS st.rounds req.dkgId).isSome = true) :
    (reinitDKG st req now payloadOf).st = st ∧ (reinitDKG st req now payloadOf).out = .ok := by
  unfold reinitDKG; simp [h, hb]

/-- whatever the file says, a re-initialisation of a round that exists leaves the node as it was -/
theorem reinit_existing_round_same_state (st : NodeSt) (req : ReinitReq) (now : Time) (payloadOf : Tasks.Msg → Bytes)
    (h : (lookupS st.rounds req.dkgId).isSome = true) : (reinitDKG st req now payloadOf).st = st :=
  reinitDKG_cases (P := fun r => r.st = st) st req now payloadOf (fun _ => rfl) (fun _ _ => rfl)
    (fun _ _ _ hn => by rw [h] at hn; cases hn) (fun _ _ _ _ hn => by rw [h] at hn; cases hn)
    (fun _ _ _ _ _ _ hn => by rw [h] at hn; cases hn)

def OthersSame (R : String) (a b : NodeSt) : Prop :=
  (∀ r, r ≠ R → lookupS b.rounds r = lookupS a.rounds r) ∧ (∀ r, r ≠ R → lookupS b.sigs r = lookupS a.sigs r)

theorem OthersSame.refl (R : String) (a : NodeSt) : OthersSame R a a := ⟨fun _ _ => rfl, fun _ _ => rfl⟩
theorem OthersSame.trans {R : String} {a b c : NodeSt} (h1 : OthersSame R a b) (h2 : OthersSame R b c) : OthersSame R a c :=
  ⟨fun r hr => (h2.1 r hr).trans (h1.1 r hr), fun r hr => (h2.2 r hr).trans (h1.2 r hr)⟩

theorem reinit_other_rounds_untouched (st : NodeSt) (req : ReinitReq) (now : Time) (payloadOf : Tasks.Msg → Bytes) :
    OthersSame req.dkgId st (reinitDKG st req now payloadOf).st :=
  reinitDKG_inv (Q := OthersSame req.dkgId st) st req now payloadOf (fun _ _ h => h)
    (fun st' im hr h => h.trans (by
      have := C08.round_noninterference st' im.msg now payloadOf
      rw [hr] at this
      exact ⟨this.1, this.2.1⟩))
    (fun _ _ h => h) (fun _ _ _ _ h _ => h.trans ⟨fun r hr => C08.saveFSM_other _ _ r _ hr, fun _ _ => rfl⟩) (.refl _ _)

theorem skip_preserved (st : NodeSt) (m : NMsg) (now : Time) (payloadOf : Tasks.Msg → Bytes) :
    (processMessage st m now payloadOf).st.skipVerify = st.skipVerify :=
  (C08.round_noninterference st m now payloadOf).2.2

/-- **reinit_loop_eq_consume.** For messages of round `R` none of which is a 0.1.4 patch: replaying them with the
re-initialisation loop, from a state whose view of `R` is that of `b`, ends with the view of `R` that `b` gets by
handling the same messages as ordinary board messages. -/
theorem reinit_loop_eq_consume (R : String) (skip0 : Bool) (now : Time) (payloadOf : Tasks.Msg → Bytes) (l : List InnerMsg)
    (hl : ∀ im ∈ l, im.msg.round = R ∧ im.patch = false) :
    ∀ (a b : NodeSt) (ops : List NOp), ViewEq R a b → a.skipVerify = skip0 →
      ViewEq R (l.foldl (reinitStep skip0 now payloadOf) (a, ops)).1 (C08.consume payloadOf b (l.map (fun im => (im.msg, now)))) := by
  induction l with
  | nil => intro a b ops h _; exact h
  | cons im rest ih =>
    intro a b ops h hskip
    obtain ⟨hr, hp⟩ := hl im (List.mem_cons_self ..)
    -- without a patch the step is `processMessage` on `a` itself, with the switch put back to what it was
    have hstep : (reinitStep skip0 now payloadOf (a, ops) im).1 = { (processMessage a im.msg now payloadOf).st with skipVerify := skip0 } := by
      rw [reinitStep, hp, Bool.or_false, ← hskip]
    have hv : ViewEq R (reinitStep skip0 now payloadOf (a, ops) im).1 (processMessageTop b im.msg now payloadOf).st := by
      subst hr
      have hv := (viewEq_processMessage im.msg h now payloadOf).1.trans (processMessageTop_viewEq_processMessage _ b im.msg now payloadOf).symm
      rw [hstep]
      exact ⟨hv.1, hv.2.1, by rw [(C08.round_noninterference_top b im.msg now payloadOf).2.2, ← h.2.2, hskip]⟩
    exact ih (fun x hx => hl x (List.mem_cons_of_mem _ hx)) _ _ _ hv rfl

/-- **reinit_keys.** When the re-initialisation succeeds the round stored under `dkg_id` is the replayed round with the
new communication keys written over the registered ones. -/
theorem reinit_keys (st : NodeSt) (req : ReinitReq) (now : Time) (payloadOf : Tasks.Msg → Bytes)
    (hnew : (lookupS st.rounds req.dkgId).isSome = false) (hok : (reinitDKG st req now payloadOf).out = .ok) :
    ∃ st2 inst st3, getInstance st2 req.dkgId = some (st3, inst) ∧
      lookupS (reinitDKG st req now payloadOf).st.rounds req.dkgId =
        some (inst.dumpState, { inst.payload with
          pubKeys := req.participants.foldl (fun acc nk => assocSet acc nk.1 nk.2) inst.payload.pubKeys }) := by
  revert hok
  refine reinitDKG_cases (P := fun r => r.out = .ok → ∃ st2 inst st3, getInstance st2 req.dkgId = some (st3, inst) ∧
      lookupS r.st.rounds req.dkgId = some (inst.dumpState, { inst.payload with
        pubKeys := req.participants.foldl (fun acc nk => assocSet acc nk.1 nk.2) inst.payload.pubKeys })) st req now payloadOf
    (fun _ => nofun) (fun _ h => by rw [hnew] at h; cases h) (fun _ _ _ _ _ _ => nofun) (fun _ _ _ _ _ _ _ _ => nofun)
    fun _ _ st2 st3 inst _ _ _ _ hg _ => ⟨st2, inst, st3, hg, lookupS_assocSet_eq _ _ _⟩

/-- **signing messages do not matter** (the repair of the former known finding C20-early-signing-proposal). A message of
the signing phase - a signing proposal posted while the key generation had hardly begun, accepted by nobody; the batches of
another round; partial signatures, reconstructed signatures - changes nothing about the replay, wherever it stands in the
file: in particular the key-generation messages AFTER it are replayed. Until fix `c405ec9` the file and the replay were cut
at the first `event_signing_start`. -/
theorem signing_messages_do_not_matter (self R : String) (skip0 : Bool) (now : Time) (payloadOf : Tasks.Msg → Bytes) (st : NodeSt)
    (before after : List InnerMsg) (p : InnerMsg) (hp : signingPhaseEvent p.msg.event = true) :
    reinitLoop self R skip0 now payloadOf st (before ++ p :: after) = reinitLoop self R skip0 now payloadOf st (before ++ after) := by
  unfold reinitLoop beforeSigning
  simp [List.filter_append, hp]

/-- what the pinned tree did, for the record: everything after the first signing proposal was dropped -/
def cutAtFirstSigningProposal (inner : List InnerMsg) : List InnerMsg := inner.takeWhile (fun im => im.msg.event != "event_signing_start")

/-- on a log whose signing phase begins after the key generation (every log of an undisturbed ceremony) nothing has changed:
the messages before the first signing proposal are replayed, exactly those, if only signing messages follow it -/
theorem same_as_the_cut_on_ordinary_logs (keygen signing : List InnerMsg)
    (hk : ∀ im ∈ keygen, signingPhaseEvent im.msg.event = false) (hs : ∀ im ∈ signing, signingPhaseEvent im.msg.event = true) :
    beforeSigning (keygen ++ signing) = keygen := by
  unfold beforeSigning
  rw [List.filter_append]
  have h1 : keygen.filter (fun im => !signingPhaseEvent im.msg.event) = keygen := by
    apply List.filter_eq_self.mpr
    intro im him; simp [hk im him]
  have h2 : signing.filter (fun im => !signingPhaseEvent im.msg.event) = [] := by
    apply List.filter_eq_nil_iff.mpr
    intro im him; simp [hs im him]
  rw [h1, h2, List.append_nil]

end Dc4bcVerif.Props.C20Node
