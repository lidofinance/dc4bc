/-
  C13, the assumption discharged for the node, part 1 of 2 (part 2, `Props/C13Start.lean`, same namespace: the start of a
  batch, the theorem `node_reapply`, and its instance in the crash model). A board message that the node handled
  successfully is, when handled AGAIN on the resulting state (at any later clock reading), either rejected — and a
  rejection writes nothing (`C18.reject_is_noop`) — or accepted without changing anything and without asking for a new
  operation. No reachability assumption: every node state, every message, every pair of clock readings.

  The proof follows the second handling step by step: the stored round is loaded from the dump the first handling
  wrote; either the preliminary steps swallow the message (nothing changes), or the event reaches the round machine,
  which refuses it (`C13Fsm.instance_reapply` when nothing was handed over; the generated tables when the round was
  handed to the next machine) unless the round is idle again and the event starts a batch (`second_do`); saving the same
  signatures again leaves the signature store as it was (`saveSignatures_idem`). Here: what "quiet" means (`AgainAt`,
  `Quiet`), the refusals, `second_do`, and the second handling by the three ways the first can have ended (`saved_again`,
  `quiet_again`, `applied_again`).
-/
import Dc4bcVerif.Props.C13Fsm
import Dc4bcVerif.Lemmas.NodeLocal
import Dc4bcVerif.Lemmas.SigStoreIdem
import Dc4bcVerif.Lemmas.NodeEvents

namespace Dc4bcVerif.Props.C13Node
open Dc4bcVerif.Gen Dc4bcVerif.Model Dc4bcVerif.Model.Node Dc4bcVerif.Lemmas.NodeLocal Dc4bcVerif.Props

/-- handling `m` in `st'` at time `now2`: no crash; and if accepted, nothing changes and no new operation is asked for -/
def AgainAt (payloadOf : Tasks.Msg → Bytes) (st' : NodeSt) (m : NMsg) (op : Option NOp) (now2 : Time) : Prop :=
  (processMessage st' m now2 payloadOf).out ≠ .panic ∧
  ((processMessage st' m now2 payloadOf).out = .ok →
    (processMessage st' m now2 payloadOf).st = st' ∧
    ((processMessage st' m now2 payloadOf).op = none ∨ (processMessage st' m now2 payloadOf).op = op))

/-- what `AgainAt` asks of the second handling, as a property of its result `r`: `AgainAt payloadOf st' m op now2` unfolds to
`Quiet st' op (processMessage st' m now2 payloadOf)` -/
def Quiet (st' : NodeSt) (op : Option NOp) (r : PMOut) : Prop :=
  r.out ≠ .panic ∧ (r.out = .ok → r.st = st' ∧ (r.op = none ∨ r.op = op))

theorem quiet_reject (st' : NodeSt) (op : Option NOp) (sent : List Sent) : Quiet st' op { st := st', out := .reject, sent := sent } :=
  ⟨nofun, nofun⟩

theorem againAt_of (payloadOf : Tasks.Msg → Bytes) (st' : NodeSt) (m : NMsg) (op : Option NOp) (now2 : Time)
    (saved : ∀ l st2, (m.event == "signature_reconstructed") = true → m.sigs = some l →
      saveSignatures st' (l.map (fun x => { x with username := m.sender, round := m.round })) = some st2 → st2 = st')
    (applied : ∀ inst inst2 ev, getInstance st' m.round = some (st', inst) → (m.event == "signature_reconstructed") = false →
      (m.event == "signature_reconstruction_failed") = false → preSteps st' inst m now2 = .cont st' inst2 →
      Ev.all.find? (fun e => e.name == m.event) = some ev →
      doPanics inst2 ev (m.arg.getD .other) = false ∧
      ∀ i3 o3, doOrReject inst2 ev (m.arg.getD .other) = some (i3, o3) → Quiet st' op (afterDo st' i3 o3 m now2 payloadOf)) :
    AgainAt payloadOf st' m op now2 := by
  show Quiet st' op (processMessage st' m now2 payloadOf)
  refine processMessage_cases (P := Quiet st' op) st' m now2 payloadOf (rejected := quiet_reject st' op [])
    (saved := ?_) (quiet := fun _ _ _ _ => ⟨nofun, fun _ => ⟨rfl, Or.inl rfl⟩⟩) (applied := ?_)
  · intro _ l st2 _ h1 hs hsv
    cases saved l st2 h1 hs hsv
    exact ⟨nofun, fun _ => ⟨rfl, Or.inl rfl⟩⟩
  · intro inst inst2 ev ha h1 h2 hpre hf _ _
    obtain ⟨hnp, hdo⟩ := applied inst inst2 ev ha.loaded h1 h2 hpre hf
    exact ⟨fun hp => absurd (hnp ▸ hp) nofun, hdo⟩

theorem refused_quiet {inst2 : Instance} {ev : Ev} {arg : Arg} (h : (inst2.doEv ev arg).2.res = .err) (P : Instance → Out → Prop) :
    doPanics inst2 ev arg = false ∧ ∀ i3 o3, doOrReject inst2 ev arg = some (i3, o3) → P i3 o3 := by
  refine ⟨by unfold doPanics; rw [h]; rfl, fun i3 o3 hd => ?_⟩
  rw [(doOrReject_some hd).1] at h
  cases h

/-- the idle signing machine refuses every event but the start of a batch -/
theorem idle_err (p : Payload) (e : Ev) (a : Arg) :
    ((⟨.sign, sIDLE, some sIDLE, p⟩ : Instance).doEv e a).2.res = .err ∨ e = eSTART :=
  (Decidable.em (e = eSTART)).symm.imp_left fun hne => doEv_route ⟨.sign, sIDLE, some sIDLE, p⟩ (sign_idle_other e hne) a

/-- what the preliminary steps of the second handling can hand on, given the loaded round `r`: `r` itself, or the idle
signing machine with `r`'s payload (a cancelled batch restarted) -/
def HandedOn (r inst2 : Instance) : Prop :=
  inst2 = r ∨ (r.machine = .sign ∧ inst2 = { machine := .sign, state := sIDLE, dumpState := some sIDLE, payload := r.payload })

theorem preSteps_handedOn {st st2 : NodeSt} {r inst2 : Instance} {m : NMsg} {now : Time}
    (h : preSteps st r m now = .cont st2 inst2) : HandedOn r inst2 := by
  refine preSteps_induct (Q := HandedOn r) ?_ h (Or.inl rfl)
  intro i i' o hi hd
  obtain ⟨hm, _, rfl⟩ := restart_some hd
  rcases hi with rfl | ⟨hr, rfl⟩
  · exact Or.inr ⟨hm, rfl⟩
  · exact Or.inr ⟨hr, rfl⟩

/-- **What the second handling gives the round machine, and what the machine answers.** Whatever followed the event the
first time — nothing (then `C13Fsm.instance_reapply`), a hand-over to the next machine, or the restart after a collected batch
(then the tables) — the event is refused; except that a round which is idle again, because the first handling restarted it
after the batch or the second restarts a cancelled one, takes the start of a batch once more. -/
theorem second_do (i2 : Instance) (ev : Ev) (arg : Arg) (now : Time) (hok : (i2.doEv ev arg).2.res = .ok)
    (i4 i5 i6 : Instance) (rs4 rs5 : Option St) (rd4 rd5 : Option RespData)
    (h1 : firstHandOver (i2.doEv ev arg).1 (i2.doEv ev arg).2 now = some (i4, rs4, rd4))
    (h2 : secondHandOver i4 rs4 rd4 now = some (i5, rs5, rd5))
    (h3 : restartAfterCollect (rs5 == some .s_state_signing_partial_signs_collected) i5 now = some i6)
    (r : Instance) (hr : Instance.restore i6.dumpState i6.payload = some r) (inst2 : Instance) (hin : HandedOn r inst2) :
    (inst2.doEv ev arg).2.res = .err ∨ (ev = eSTART ∧ inst2 = ⟨.sign, sIDLE, some sIDLE, r.payload⟩) := by
  rcases hin with rfl | ⟨_, rfl⟩
  -- a cancelled batch was restarted before the event: the idle signing machine
  case inr => exact (idle_err _ ev arg).imp_right (⟨·, rfl⟩)
  obtain ⟨hsome, hreach, _, hdump3, hrs3⟩ := doEv_ok_facts i2 ev arg hok
  have hent := handover_entered hreach
  rcases firstHandOver_some h1 with ⟨c1, hh1⟩ | ⟨c1, rfl, rfl, rfl⟩
  · -- invitations collected: the round went to the key-generation machine, and stays there
    rw [hrs3] at c1
    obtain ⟨_, hdump4, rfl, hown, hnmk, hncoll⟩ := dkginit_handOver hh1
    rcases secondHandOver_some h2 with ⟨c2, _⟩ | ⟨_, rfl, rfl, rfl⟩
    · exact absurd (Option.some.inj c2) hnmk
    rcases restartAfterCollect_some h3 with ⟨c3, _⟩ | ⟨_, rfl⟩
    · exact absurd (by simpa using c3) hncoll
    rw [hdump4, restore_eq] at hr
    cases hr
    exact .inl (doEv_other_machine hsome _ (by rw [hent.1 (Option.some.inj c1), hown]; nofun) arg)
  rcases secondHandOver_some h2 with ⟨c2, hh2⟩ | ⟨c2, rfl, rfl, rfl⟩
  · -- master keys collected: the round went to the signing machine, and no batch is collected there yet
    rw [hrs3] at c2
    obtain ⟨_, _, hdump5, rfl, hown, hncoll⟩ := signinit_handOver hh2
    rcases restartAfterCollect_some h3 with ⟨c3, _⟩ | ⟨_, rfl⟩
    · exact absurd (by simpa using c3) hncoll
    rw [hdump5, restore_eq] at hr
    cases hr
    exact .inl (doEv_other_machine hsome _ (by rw [hent.2 (Option.some.inj c2), hown]; nofun) arg)
  rcases restartAfterCollect_some h3 with ⟨_, rr, o, _, hd⟩ | ⟨_, rfl⟩
  · -- a collected batch: the round was restarted
    obtain ⟨_, _, rfl⟩ := restart_some hd
    cases (restore_eq sIDLE _).symm.trans hr
    exact (idle_err _ ev arg).imp_right (⟨·, rfl⟩)
  · -- nothing happened after the event: the stored round is its result
    exact .inl (C13Fsm.instance_reapply i2 ev arg hok _ hr)

theorem saved_again (payloadOf : Tasks.Msg → Bytes) (st st2 : NodeSt) (m : NMsg) (l : List RSig) (now2 : Time)
    (h1 : (m.event == "signature_reconstructed") = true) (hs : m.sigs = some l)
    (hsv : saveSignatures st (l.map (fun x => { x with username := m.sender, round := m.round })) = some st2) :
    AgainAt payloadOf st2 m none now2 := by
  refine againAt_of payloadOf st2 m none now2 ?_ (fun _ _ _ _ h1' => by rw [h1] at h1'; cases h1')
  intro l' st3 _ hs' hsv'
  rw [hs] at hs'
  cases hs'
  rw [saveSignatures_idem _ _ _ hsv] at hsv'
  exact (Option.some.inj hsv').symm

theorem quiet_again (payloadOf : Tasks.Msg → Bytes) (st : NodeSt) (m : NMsg) (now1 now2 : Time) (inst : Instance)
    (hg : getInstance st m.round = some (st, inst)) (h1 : (m.event == "signature_reconstructed") = false)
    (hwhy : (m.event == "signature_reconstruction_failed") = true ∨ preSteps st inst m now1 = .swallow st) :
    AgainAt payloadOf st m none now2 := by
  refine againAt_of payloadOf st m none now2 (fun _ _ h1' => by rw [h1] at h1'; cases h1') ?_
  intro inst' inst2 ev hg' _ h2 hpre _
  rcases hwhy with h | hsw
  · rw [h] at h2; cases h2
  · rw [hg] at hg'
    cases hg'
    rw [preSteps_indep _ _ _ now2 now1, hsw] at hpre
    cases hpre

theorem applied_again (payloadOf : Tasks.Msg → Bytes) (st3 : NodeSt) (m : NMsg) (i6 : Instance) (op : Option NOp) (now2 : Time) (ev : Ev)
    (h1 : (m.event == "signature_reconstructed") = false) (hf : Ev.all.find? (fun e => e.name == m.event) = some ev)
    (hq : ∀ r inst2, Instance.restore i6.dumpState i6.payload = some r → HandedOn r inst2 →
      doPanics inst2 ev (m.arg.getD .other) = false ∧
      ∀ i3 o3, doOrReject inst2 ev (m.arg.getD .other) = some (i3, o3) →
        Quiet (saveFSM st3 m.round (i6.dumpState, i6.payload)) op
          (afterDo (saveFSM st3 m.round (i6.dumpState, i6.payload)) i3 o3 m now2 payloadOf)) :
    AgainAt payloadOf (saveFSM st3 m.round (i6.dumpState, i6.payload)) m op now2 := by
  refine againAt_of payloadOf _ m op now2 (fun _ _ h1' => by rw [h1] at h1'; cases h1') ?_
  intro inst inst2 ev' hg _ _ hpre hf'
  rw [hf] at hf'
  cases hf'
  rw [getInstance_saveFSM] at hg
  obtain ⟨r, hr, hri⟩ := Option.map_eq_some_iff.mp hg
  cases hri
  exact hq inst inst2 hr (preSteps_handedOn hpre)

end Dc4bcVerif.Props.C13Node
