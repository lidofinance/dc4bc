/-
  C18, FSM layer — no event, in no reachable round, makes a callback dereference a missing payload part.

  `Props/C18.lean panic_only_from_callbacks` reduces a crash of the node's message handling (in the model) to a
  callback of the FSM returning `Res.panic`, which stands for the nil dereferences of the Go callbacks
  (`m.payload.DKGProposalPayload.…` etc.). The callbacks of a machine read the parts of the payload that the machines before
  it made, and its own (`SafeFor`, Lemmas/NoPanic). A round that satisfies the phase invariant (C05 `RoundInv`) and `PartsInv`
  (invitation data from the first accepted message on, signing data from the hand-over to the signing machine on) holds
  them, except in the three states in which a machine starts: there the one accepted event makes the machine's own part.
  So `Do` does not panic on such a round, and after an accepted `Do` the parts of the machine in charge are there
  (`do_safe`, `no_panic_of_inv`). No callback drops a part, hence every run from a created round keeps `PartsInv`
  (`parts_do`, `parts_invariant`), and `never_panics` follows.
-/
import Dc4bcVerif.Lemmas.NoPanic
import Dc4bcVerif.Props.C05

namespace Dc4bcVerif.Props.C18Fsm
open Dc4bcVerif.Gen Dc4bcVerif.Model Dc4bcVerif.Props

def signActive (s : St) : Bool := s == sIDLE || s == sAWAIT || s == sCOLLECTED || s == sCANCERR || s == sCANCTO

/-- the cancelled states of the key-generation machine (error reports may still arrive there) -/
def dkgCanc (s : St) : Bool :=
  s == .s_state_dkg_commits_await_canceled_by_error || s == .s_state_dkg_commits_await_canceled_by_timeout
  || s == .s_state_dkg_deals_await_canceled_by_error || s == .s_state_dkg_deals_await_canceled_by_timeout
  || s == .s_state_dkg_responses_await_canceled_by_error || s == .s_state_dkg_responses_sending_canceled_by_timeout
  || s == .s_state_dkg_master_key_await_canceled_by_error || s == .s_state_dkg_master_key_await_canceled_by_timeout

def PartsInv (i : Instance) : Prop :=
  (i.state ≠ sIdle0 → i.payload.sig.isSome = true) ∧ (signActive i.state = true → i.payload.sign.isSome = true) ∧
  (dkgCanc i.state = true → i.payload.dkg.isSome = true)

/-- only the signing machine has a row into a state of a running signing machine, and the invitation machine has no row
into a cancelled state of the key generation -/
theorem rows_not_active (mid : MachineId) (h : mid ≠ .sign) : ∀ d ∈ (machineOf mid).events, signActive d.dst = false := by
  cases mid with
  | sig => decide
  | dkg => decide
  | sign => exact absurd rfl h
theorem sig_rows_not_canc : ∀ d ∈ sigMachine.events, dkgCanc d.dst = false := by decide

theorem active_of_owner_sign {s : St} (h : owner s = .sign) (hmk : s ≠ sMKCollected) : signActive s = true := by
  revert h hmk; cases s <;> decide

theorem cancelled_cases {s : St} (h : cancelledSt s = true) : dkgCanc s = true ∨ owner s = .sig := by
  revert h; cases s <;> decide

/-- key-generation data is there from the commits phase on -/
theorem dkg_of_inv {s : St} {p : Payload} (hph : phaseInv s p) (hc : dkgCanc s = true → p.dkg.isSome = true)
    (hown : owner s ≠ .sig) (hcol : s ≠ sSigCollected) : p.dkg.isSome = true := by
  rcases state_classes s with rfl | rfl | rfl | rfl | rfl | rfl | rfl | hs | hs
  · exact absurd rfl hown
  · exact absurd rfl hown
  · exact absurd rfl hcol
  · obtain ⟨dc, hinv⟩ := hph; rw [hinv.hdkg]; rfl
  · obtain ⟨dc, hinv⟩ := hph; rw [hinv.hdkg]; rfl
  · obtain ⟨dc, hinv⟩ := hph; rw [hinv.hdkg]; rfl
  · obtain ⟨dc, hinv⟩ := hph; rw [hinv.hdkg]; rfl
  · rw [signFamily_phaseInv _ hs] at hph; obtain ⟨dc, hdc, _⟩ := hph; rw [hdc]; rfl
  · exact (cancelled_cases hs).elim hc (fun h => absurd h hown)

/-- `Do` of the machine in charge on a round that satisfies the two invariants does not panic, and if it is accepted the
parts that machine works on are there afterwards: they were there before, or the state is one of the three in which a
machine starts, where the one accepted event creates them -/
theorem do_safe (s : St) (p : Payload) (hph : phaseInv s p) (hP : PartsInv ⟨owner s, s, none, p⟩) (e : Ev) (a : Arg) :
    (doEvent (machineOf (owner s)) runAction s p e a).res ≠ .panic ∧
      ((doEvent (machineOf (owner s)) runAction s p e a).res = .ok →
        SafeFor (owner s) (doEvent (machineOf (owner s)) runAction s p e a).payload) := by
  obtain ⟨hsig, hsign, hcanc⟩ := hP
  dsimp only at hsig hsign hcanc
  by_cases hidle : s = sIdle0
  · subst hidle
    refine entry_good sig_lookup_init rfl (no_before_auto .sig _) sig_cb_init sig_idle_public (safeFor_safe .sig) p e a
      (runAction_no_panic _ _ p a trivial) (fun hk => ?_)
    obtain ⟨-, -, hacc⟩ := sig_init_spec p a
    obtain ⟨-, parts, thr, ts, sc, -, hs, -⟩ := hacc hk
    exact (congrArg Option.isSome hs).trans rfl
  by_cases hcol : s = sSigCollected
  · subst hcol
    obtain ⟨hd, sc, hsc, hne, _⟩ := hph
    refine entry_good dkginit_lookup rfl (no_before_auto .dkg _) dkginit_cb dkg_collected_public (safeFor_safe .dkg) p e a
      (runAction_no_panic _ _ p a (Or.inr ⟨sc, hsc, hne⟩)) (fun hk => ?_)
    obtain ⟨-, hacc⟩ := dkg_init_spec p a hd sc hsc
    obtain ⟨-, ts, dc, -, hpay, -⟩ := hacc hk
    exact (congrArg (fun q : Payload => q.dkg.isSome) hpay).trans rfl
  have hdkg : owner s ≠ .sig → p.dkg.isSome = true := fun h => dkg_of_inv hph hcanc h hcol
  by_cases hmkc : s = sMKCollected
  · subst hmkc
    refine entry_good sign_lookup_init rfl (no_before_auto .sign _) sign_cb_init sign_mkc_public (safeFor_safe .sign) p e a
      (runAction_no_panic _ _ p a trivial) (fun hk => ?_)
    have hk' := runAction_keeps .sign_actionInitSigningProposal eSignInit p a
    exact ⟨hk'.sig (hsig hidle), hk'.dkg (hdkg (by decide)), sign_init_creates eSignInit p a hk⟩
  -- everywhere else the parts the machine in charge works on are there already, and no callback drops one
  refine (doEvent_safe _ _ runAction (safeFor_safe _) s p e a ?_).imp_right fun h _ => h
  cases hown : owner s with
  | sig => exact hsig hidle
  | dkg => exact hdkg (by rw [hown]; decide)
  | sign => exact ⟨hsig hidle, hdkg (by rw [hown]; decide), hsign (active_of_owner_sign hown hmkc)⟩

theorem no_panic_of_inv (i : Instance) (hR : C05.RoundInv i) (hP : PartsInv i) (e : Ev) (a : Arg) :
    (i.doEv e a).2.res ≠ .panic := by
  obtain ⟨mach, s, ds, p⟩ := i
  obtain rfl := owner_of_pool (s := s) hR.1
  exact (do_safe s p hR.2 hP e a).1

/-- an accepted `Do` of the machine in charge keeps the parts. Those the machine works on are there afterwards (`do_safe`).
Another machine's part is asked for in the state reached only if it was asked for before — the state is where it was or at
the destination of a row of the machine in charge — and a part that is there stays (`doEvent_keeps`). -/
theorem parts_do (s : St) (p : Payload) (e : Ev) (a : Arg) (hph : phaseInv s p)
    (hP : PartsInv ⟨owner s, s, none, p⟩) (hok : (doEvent (machineOf (owner s)) runAction s p e a).res = .ok) :
    PartsInv ⟨owner s, (doEvent (machineOf (owner s)) runAction s p e a).state, none,
      (doEvent (machineOf (owner s)) runAction s p e a).payload⟩ := by
  have hsafe := (do_safe s p hph hP e a).2 hok
  obtain ⟨hsig, hsign, hcanc⟩ := hP
  dsimp only at hsig hsign hcanc
  unfold PartsInv
  dsimp only
  have hkeep := doEvent_keeps (machineOf (owner s)) s p e a
  have hdst := (doEvent_hops (machineOf (owner s)) runAction s p e a).dst
  refine ⟨fun _ => ?_, fun hact => ?_, fun hc => ?_⟩
  · by_cases hidle : s = sIdle0
    · subst hidle
      exact hsafe
    · exact hkeep.sig (hsig hidle)
  · by_cases hown : owner s = .sign
    · rw [hown] at hsafe ⊢
      exact hsafe.2.2
    · rcases hdst with h | ⟨d, hd, h⟩
      · rw [h] at hact; exact hkeep.sign (hsign hact)
      · rw [← h, rows_not_active _ hown d hd] at hact; cases hact
  · cases hown : owner s with
    | dkg => rw [hown] at hsafe; exact hsafe
    | sign => rw [hown] at hsafe; exact hsafe.2.1
    | sig =>
      -- the invitation machine has no row into a cancelled state of the key generation
      rw [hown] at hkeep hdst hc
      rcases hdst with h | ⟨d, hd, h⟩
      · rw [h] at hc; exact hkeep.dkg (hcanc hc)
      · rw [← h, sig_rows_not_canc d hd] at hc; cases hc

theorem partsInv_step (i : Instance) (ea : Ev × Arg) (hR : C05.RoundInv i) (hP : PartsInv i) : PartsInv (persistStep i ea) :=
  (persistStep_inv (Inv := fun s p => phaseInv s p ∧ PartsInv ⟨owner s, s, none, p⟩)
    (fun s p e a h hok => ⟨phaseInv_do s p e a h.1 hok, parts_do s p e a h.1 h.2 hok⟩) i ea ⟨hR.1, hR.2, hP⟩).2.2

theorem parts_invariant (id : String) (evs : List (Ev × Arg)) :
    C05.RoundInv (run (Instance.create id) evs) ∧ PartsInv (run (Instance.create id) evs) := by
  apply run_induction (Q := fun i => C05.RoundInv i ∧ PartsInv i)
  · intro i ea h
    exact ⟨C05.roundInv_step i ea h.1, partsInv_step i ea h.1 h.2⟩
  · -- a created round is in `__idle`: no part is asked for
    refine ⟨⟨poolState_eq _, rfl⟩, fun h => absurd rfl h, fun h => ?_, fun h => ?_⟩
    · simp [Instance.create, signActive] at h
    · simp [Instance.create, dkgCanc] at h

/-- **never_panics (FSM).** Whatever finite sequence of events (any events, any arguments, accepted or rejected) has been
applied to a created round, and whatever event with whatever argument comes next, `Do` ends with ok or an error: no
callback ever dereferences a payload part that is not there. -/
theorem never_panics (id : String) (evs : List (Ev × Arg)) (e : Ev) (a : Arg) :
    ((run (Instance.create id) evs).doEv e a).2.res ≠ .panic := by
  obtain ⟨hR, hP⟩ := parts_invariant id evs
  exact no_panic_of_inv _ hR hP e a

end Dc4bcVerif.Props.C18Fsm
