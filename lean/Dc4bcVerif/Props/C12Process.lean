/-
  C12, the process as a whole — one airgapped PROCESS handles many ceremonies, and besides the per-round DKG instances it
  keeps volatile state that belongs to no round: the base seed in memory (`am.baseSeed`, loaded from the database when the
  process starts, and again by set_seed). `Props/C12.lean` proves the restart property for one round with a handler that is a
  function of that round's instance and the operation. This file proves what that silently assumed:

  * a handler here also READS the process memory `g` (the seed: `sha256(round ‖ baseSeed)`, `InitDKGInstance(baseSeed)`) and
    may, as far as the types go, WRITE it;
  * `carries_on_in_round`: if no handler writes the process memory (`MemPure`) and signing requests leave the instance alone
    (`UnloggedPure`), then after ANY history over ANY number of rounds, in any interleaving, stopping the process, opening the
    database again and replaying round `r` gives a machine that answers every later operation of round `r` exactly as the
    machine that never stopped;
  * `other_rounds_do_not_matter`: under the same hypotheses what a machine answers in round `r` does not depend on the
    other ceremonies its process handled before or in between ("two machines created from the same mnemonic and fed the same
    operations derive identical commitments and shares" — whatever else each has been through);
  * `mem_write_breaks_second_ceremony`: `MemPure` is necessary. A handler that derives the round's instance from the seed and
    then wipes the seed it was handed (an aliased slice: the machine's own) satisfies every hypothesis of `Props/C12.lean`
    round by round, and still a restart inside the SECOND ceremony of a process gives other answers.

  Tie to the code: `Gen/SeedFacts.lean` (regenerated from /repo on every run) lists every statement of package airgapped that
  writes `baseSeed`, every use of it, and what `dkg.InitDKGInstance` does with the slice it is handed; `SrcFacts` checks those
  lists (`seed_written_only_when_set`, `seed_parameter_is_read_only`). That `frand.NewCustom` and `sha256.Sum256` do not write
  their argument is trusted (external libraries) and exercised by airdiff's second-ceremony scenario on real machines.
-/
namespace Dc4bcVerif.Props.C12Process

variable {G V Op R Rd : Type} [DecidableEq Rd]

/-- a handler: (process memory, round, that round's instance, operation) ↦ (instance, result, process memory) -/
abbrev HG (G Rd V Op R : Type) := G → Rd → Option V → Op → Option V × R × G

structure Proc (G Rd V Op : Type) where
  /-- the seed in the database -/
  disk : G
  /-- `am.baseSeed` -/
  mem : G
  /-- `am.dkgInstances` -/
  inst : Rd → Option V
  /-- `operations_log` -/
  log : Rd → List Op

def upd {α : Type} (f : Rd → α) (r : Rd) (x : α) : Rd → α := fun r' => if r' = r then x else f r'

/-- `ProcessOperation(op, true)` for an operation of round `r` -/
def processOp (h : HG G Rd V Op R) (logged : Op → Bool) (p : Proc G Rd V Op) (r : Rd) (op : Op) : Proc G Rd V Op × R :=
  let out := h p.mem r (p.inst r) op
  ({ disk := p.disk, mem := out.2.2, inst := upd p.inst r out.1,
     log := if logged op then upd p.log r (p.log r ++ [op]) else p.log }, out.2.1)

/-- a process started on a database that holds seed `d` -/
def fresh (d : G) : Proc G Rd V Op := ⟨d, d, fun _ => none, fun _ => []⟩

/-- `ReplayOperationsLog(r)`: (instance, process memory afterwards) -/
def replay (h : HG G Rd V Op R) (r : Rd) : G → Option V → List Op → Option V × G
  | g, v, [] => (v, g)
  | g, v, op :: rest => replay h r (h g r v op).2.2 (h g r v op).1 rest

/-- stop the process, start it on the same database, replay round `r` -/
def restart (h : HG G Rd V Op R) (p : Proc G Rd V Op) (r : Rd) : Proc G Rd V Op :=
  { disk := p.disk, mem := (replay h r p.disk none (p.log r)).2,
    inst := upd (fun _ => none) r (replay h r p.disk none (p.log r)).1, log := p.log }

/-- any history: operations of any rounds in any order; results tagged with their round -/
def run (h : HG G Rd V Op R) (logged : Op → Bool) (p : Proc G Rd V Op) : List (Rd × Op) → Proc G Rd V Op × List (Rd × R)
  | [] => (p, [])
  | (r, op) :: rest =>
    let s := processOp h logged p r op
    let t := run h logged s.1 rest
    (t.1, (r, s.2) :: t.2)

def runRound (h : HG G Rd V Op R) (logged : Op → Bool) (p : Proc G Rd V Op) (r : Rd) : List Op → Proc G Rd V Op × List R
  | [] => (p, [])
  | op :: rest =>
    let s := processOp h logged p r op
    let t := runRound h logged s.1 r rest
    (t.1, s.2 :: t.2)

/-- no handler writes the process memory -/
def MemPure (h : HG G Rd V Op R) : Prop := ∀ g r v op, (h g r v op).2.2 = g

/-- signing requests (not logged) leave the round's instance alone -/
def UnloggedPure (h : HG G Rd V Op R) (logged : Op → Bool) : Prop := ∀ g r v op, logged op = false → (h g r v op).1 = v

/-- the memory is the database's seed and every instance is what replaying its round's log from that seed rebuilds -/
def Inv (h : HG G Rd V Op R) (p : Proc G Rd V Op) : Prop :=
  p.mem = p.disk ∧ ∀ r, p.inst r = (replay h r p.disk none (p.log r)).1

omit [DecidableEq Rd] in
theorem replay_mem {h : HG G Rd V Op R} (hm : MemPure h) (r : Rd) (g : G) (v : Option V) (l : List Op) :
    (replay h r g v l).2 = g := by
  induction l generalizing v with
  | nil => rfl
  | cons op rest ih => rw [replay, hm]; exact ih _

omit [DecidableEq Rd] in
theorem replay_append {h : HG G Rd V Op R} (hm : MemPure h) (r : Rd) (g : G) (v : Option V) (l : List Op) (op : Op) :
    (replay h r g v (l ++ [op])).1 = (h g r (replay h r g v l).1 op).1 := by
  induction l generalizing v with
  | nil => rfl
  | cons x rest ih => rw [List.cons_append, replay, replay, hm]; exact ih _

theorem upd_same {α : Type} (f : Rd → α) (r : Rd) (x : α) : upd f r x r = x := if_pos rfl

theorem upd_other {α : Type} (f : Rd → α) {r r' : Rd} (hr : r' ≠ r) (x : α) : upd f r x r' = f r' := if_neg hr

theorem process_inv {h : HG G Rd V Op R} {logged : Op → Bool} (hm : MemPure h) (hp : UnloggedPure h logged)
    {p : Proc G Rd V Op} (r : Rd) (op : Op) (hi : Inv h p) : Inv h (processOp h logged p r op).1 := by
  obtain ⟨hmem, hinst⟩ := hi
  refine ⟨(hm ..).trans hmem, fun r' => ?_⟩
  simp only [processOp]
  by_cases hr : r' = r
  · subst hr
    rw [upd_same]
    cases hl : logged op
    · rw [hp _ _ _ _ hl]; exact hinst r'
    · rw [if_pos rfl, upd_same, replay_append hm, ← hinst r', hmem]
  · rw [upd_other _ hr, hinst r']
    split
    · rw [upd_other _ hr]
    · rfl

theorem run_inv (h : HG G Rd V Op R) (logged : Op → Bool) (hm : MemPure h) (hp : UnloggedPure h logged)
    (hist : List (Rd × Op)) (p : Proc G Rd V Op) (hi : Inv h p) : Inv h (run h logged p hist).1 := by
  induction hist generalizing p with
  | nil => exact hi
  | cons x rest ih => exact ih _ (process_inv hm hp x.1 x.2 hi)

/-- two processes that look alike from round `r` -/
def AgreeOn (r : Rd) (p q : Proc G Rd V Op) : Prop := p.mem = q.mem ∧ p.inst r = q.inst r

theorem process_agree (h : HG G Rd V Op R) (logged : Op → Bool) {r : Rd} {p q : Proc G Rd V Op} (op : Op) (ha : AgreeOn r p q) :
    (processOp h logged p r op).2 = (processOp h logged q r op).2 ∧ AgreeOn r (processOp h logged p r op).1 (processOp h logged q r op).1 := by
  simp only [processOp, AgreeOn, upd_same, ha.1, ha.2, and_self]

theorem runRound_agree (h : HG G Rd V Op R) (logged : Op → Bool) {r : Rd} (ops : List Op) {p q : Proc G Rd V Op} (ha : AgreeOn r p q) :
    (runRound h logged p r ops).2 = (runRound h logged q r ops).2 := by
  induction ops generalizing p q with
  | nil => rfl
  | cons op rest ih =>
    obtain ⟨hr, ha'⟩ := process_agree h logged op ha
    rw [runRound, runRound, hr, ih ha']

theorem restart_agrees {h : HG G Rd V Op R} (hm : MemPure h) {p : Proc G Rd V Op} (r : Rd) (hi : Inv h p) :
    AgreeOn r (restart h p r) p :=
  ⟨(replay_mem hm ..).trans hi.1.symm, (upd_same (fun _ => none) r _).trans (hi.2 r).symm⟩

/-- Whatever ceremonies the process has been through (`hist`: any rounds, any interleaving), a stop,
a fresh start on the same database and a replay of round `r` give a machine that answers every later operation of round `r`
like the machine that never stopped. -/
theorem carries_on_in_round (h : HG G Rd V Op R) (logged : Op → Bool) (hm : MemPure h) (hp : UnloggedPure h logged)
    (d : G) (hist : List (Rd × Op)) (r : Rd) (later : List Op) :
    (runRound h logged (restart h (run h logged (fresh d) hist).1 r) r later).2
      = (runRound h logged (run h logged (fresh d) hist).1 r later).2 :=
  runRound_agree h logged later (restart_agrees hm r (run_inv h logged hm hp hist _ ⟨rfl, fun _ => rfl⟩))

theorem other_round_agree {h : HG G Rd V Op R} (logged : Op → Bool) (hm : MemPure h) {r r' : Rd} (hne : r' ≠ r)
    {p q : Proc G Rd V Op} (op : Op) (ha : AgreeOn r p q) : AgreeOn r (processOp h logged p r' op).1 q :=
  ⟨(hm ..).trans ha.1, (upd_other _ (Ne.symm hne) _).trans ha.2⟩

def answersOf (r : Rd) (rs : List (Rd × R)) : List R := rs.filterMap (fun x => if x.1 = r then some x.2 else none)

def opsOf (r : Rd) (hist : List (Rd × Op)) : List Op := hist.filterMap (fun x => if x.1 = r then some x.2 else none)

/-- What a machine answers in round `r` is what a machine with the same seed answers that is
fed round `r` alone: the other ceremonies of the process, before or in between, do not show. -/
theorem other_rounds_do_not_matter (h : HG G Rd V Op R) (logged : Op → Bool) (hm : MemPure h) (r : Rd)
    (hist : List (Rd × Op)) (p q : Proc G Rd V Op) (ha : AgreeOn r p q) :
    answersOf r (run h logged p hist).2 = (runRound h logged q r (opsOf r hist)).2 := by
  induction hist generalizing p q with
  | nil => rfl
  | cons x rest ih =>
    obtain ⟨r', op⟩ := x
    by_cases hr : r' = r
    · subst hr
      obtain ⟨hres, ha'⟩ := process_agree h logged op ha
      simp only [run, answersOf, opsOf, List.filterMap_cons, ↓reduceIte, runRound]
      rw [hres]
      congr 1
      exact ih _ _ ha'
    · simp only [run, answersOf, opsOf, List.filterMap_cons, hr, ↓reduceIte]
      exact ih _ _ (other_round_agree logged hm hr op ha)

theorem same_seed_same_answers (h : HG G Rd V Op R) (logged : Op → Bool) (hm : MemPure h) (d : G) (r : Rd) (hist : List (Rd × Op)) :
    answersOf r (run h logged (fresh d) hist).2 = (runRound h logged (fresh d) r (opsOf r hist)).2 :=
  other_rounds_do_not_matter h logged hm r hist _ _ ⟨rfl, rfl⟩

/-! ### `MemPure` is necessary: the seed wiped through an aliased slice -/

/-- `true`: the commits step (logged) — the instance is derived from the seed in memory, which is then wiped;
`false`: a request that only reads the instance (not logged) -/
def wiping : HG Nat Nat Nat Bool Nat := fun g _ v op => if op then (some g, g, 0) else (v, v.getD 0, g)

/-- round by round this handler is everything `Props/C12.lean` asks for: deterministic, unlogged operations pure -/
theorem wiping_unlogged_pure : UnloggedPure wiping (fun op => op) := by
  intro g r v op hl; simp only at hl; simp [wiping, hl]

/-- … and its first ceremony survives any restart -/
example : (runRound wiping (fun op => op) (restart wiping (run wiping (fun op => op) (fresh 7) [(0, true)]).1 0) 0 [false]).2
    = (runRound wiping (fun op => op) (run wiping (fun op => op) (fresh 7) [(0, true)]).1 0 [false]).2 := by decide

/-- The second ceremony of the process does not: the machine that never stopped
answers from the wiped seed, the restarted one from the seed in the database. -/
theorem mem_write_breaks_second_ceremony :
    (runRound wiping (fun op => op) (restart wiping (run wiping (fun op => op) (fresh 7) [(0, true), (1, true)]).1 1) 1 [false]).2
      ≠ (runRound wiping (fun op => op) (run wiping (fun op => op) (fresh 7) [(0, true), (1, true)]).1 1 [false]).2 := by decide

/-- … and a machine fed the second ceremony alone answers otherwise than the one that handled the first before it -/
theorem mem_write_breaks_same_seed :
    answersOf 1 (run wiping (fun op => op) (fresh 7) [(0, true), (1, true), (1, false)]).2
      ≠ (runRound wiping (fun op => op) (fresh 7) 1 (opsOf 1 [(0, true), (1, true), (1, false)])).2 := by decide

/-- non-vacuity of the hypotheses: a handler that reads the seed and leaves it alone -/
def reading : HG Nat Nat Nat Bool Nat := fun g r v op => if op then (some (g + r), g + r, g) else (v, v.getD 0, g)

example : MemPure reading ∧ UnloggedPure reading (fun op => op) := by
  refine ⟨?_, ?_⟩
  · intro g r v op; cases op <;> simp [reading]
  · intro g r v op hl; simp only at hl; simp [reading, hl]

end Dc4bcVerif.Props.C12Process
