/-
  C05 — a round advances only on unanimous delivery; any failure aborts it for good.

  Part 1 (this section): statements that hold for the generated transition tables whatever the
  callbacks do — proved by deciding a closure property of the table and lifting it through the
  engine model (`doEvent_hops`: one `Do` moves the state along at most three table rows).
-/
import Dc4bcVerif.Lemmas.RoundStep

namespace Dc4bcVerif.Props.C05
open Dc4bcVerif.Gen Dc4bcVerif.Model

def cancelled (s : St) : Bool :=
  s == .s_state_sig_proposal_canceled_by_participant || s == .s_state_sig_proposal_canceled_by_timeout
  || s == .s_state_dkg_commits_await_canceled_by_error || s == .s_state_dkg_commits_await_canceled_by_timeout
  || s == .s_state_dkg_deals_await_canceled_by_error || s == .s_state_dkg_deals_await_canceled_by_timeout
  || s == .s_state_dkg_responses_await_canceled_by_error || s == .s_state_dkg_responses_sending_canceled_by_timeout
  || s == .s_state_dkg_master_key_await_canceled_by_error || s == .s_state_dkg_master_key_await_canceled_by_timeout

/-- signing-ready: key generation finished (`master_key_collected`) or any state of the signing machine -/
def signingReady (s : St) : Bool :=
  s == .s_state_dkg_master_key_collected || s == sIDLE' || s == .s_state_signing_await_partial_signs
  || s == .s_state_signing_partial_signs_collected
  || s == .s_state_signing_partial_signs_await_cancelled_by_error
  || s == .s_state_signing_partial_signs_await_cancelled_by_timeout
where sIDLE' : St := .s_stage_signing_idle

theorem cancelled_closed (mid : MachineId) : closedUnder (machineOf mid) cancelled = true :=
  cancelledSt_closed mid

theorem cancelled_not_ready (s : St) (h : cancelled s = true) : signingReady s = false := by
  revert h; cases s <;> decide

theorem cancelled_step (i : Instance) (ea : Ev × Arg) (h : cancelled i.state = true) :
    cancelled (persistStep i ea).state = true :=
  closedUnder_hops (cancelled_closed i.machine) (persistStep_hops i ea) h

/-- **cancel_absorbing.** Once a round is in a cancelled state (decline, reported error, expired
deadline, mismatching keys), no sequence of events — whatever events, participants, payloads
or timestamps — ever makes it signing-ready. -/
theorem cancel_absorbing (i : Instance) (h : cancelled i.state = true) (evs : List (Ev × Arg)) :
    signingReady (run i evs).state = false := by
  apply cancelled_not_ready
  exact run_induction (Q := fun j => cancelled j.state = true) cancelled_step i h evs

/-- position of a state in the ceremony: 0 idle, 1 invitation, 2 invitations collected, 3 commits,
4 deals, 5 responses, 6 key confirmation, 7 keys collected, 8 signing. A cancelled state keeps
the rank of the phase it cancelled. -/
def rank : St → Nat
  | .s___idle => 0
  | .s_state_sig_proposal_await_participants_confirmations => 1
  | .s_state_sig_proposal_canceled_by_participant => 1
  | .s_state_sig_proposal_canceled_by_timeout => 1
  | .s_state_sig_proposal_collected => 2
  | .s_state_dkg_commits_await_confirmations => 3
  | .s_state_dkg_commits_await_canceled_by_error => 3
  | .s_state_dkg_commits_await_canceled_by_timeout => 3
  | .s_state_dkg_deals_await_confirmations => 4
  | .s_state_dkg_deals_await_canceled_by_error => 4
  | .s_state_dkg_deals_await_canceled_by_timeout => 4
  | .s_state_dkg_responses_await_confirmations => 5
  | .s_state_dkg_responses_await_canceled_by_error => 5
  | .s_state_dkg_responses_sending_canceled_by_timeout => 5
  | .s_state_dkg_master_key_await_confirmations => 6
  | .s_state_dkg_master_key_await_canceled_by_error => 6
  | .s_state_dkg_master_key_await_canceled_by_timeout => 6
  | .s_state_dkg_master_key_collected => 7
  | _ => 8

/-- every row of every table keeps the phase or advances it by exactly one: no phase is skipped
and none is ever repeated (there is no row back to an earlier phase) -/
theorem rows_in_order (mid : MachineId) :
    rowsAll (machineOf mid) (fun s s' => decide (rank s ≤ rank s' ∧ rank s' ≤ rank s + 1)) = true := by
  cases mid <;> decide

theorem edge_rank {mid : MachineId} {s s' : St} (h : Edge (machineOf mid) s s') :
    rank s ≤ rank s' ∧ rank s' ≤ rank s + 1 := by
  simpa using rowsAll_edge (rows_in_order mid) h

theorem hops_rank {mid : MachineId} {k : Nat} {s s' : St} (h : Hops (machineOf mid) k s s') : rank s ≤ rank s' := by
  induction h with
  | refl => exact Nat.le_refl _
  | step e _ ih => exact Nat.le_trans (edge_rank e).1 ih

/-- **phase_order.** Along every run the phase never goes backwards … -/
theorem rank_step (i : Instance) (ea : Ev × Arg) : rank i.state ≤ rank (persistStep i ea).state :=
  hops_rank (persistStep_hops i ea)

theorem phase_monotone (i : Instance) (evs : List (Ev × Arg)) : rank i.state ≤ rank (run i evs).state :=
  run_induction (Q := fun j => rank i.state ≤ rank j.state) (fun j ea h => Nat.le_trans h (rank_step j ea)) i (Nat.le_refl _) evs

/-- … and (`edge_rank`) every single state change is by at most one phase, so reaching phase `k`
means having passed through every phase below it, in order. -/
theorem no_phase_skipped {mid : MachineId} {s s' : St} (h : Edge (machineOf mid) s s') : rank s' ≤ rank s + 1 :=
  (edge_rank h).2

/-- **reject_noop**, routing part: an event that has no transition from the current state, or is
internal, changes neither the state nor the payload, and nothing is persisted. -/
theorem route_reject_noop (i : Instance) (ea : Ev × Arg) (h : (i.doEv ea.1 ea.2).2.resp = none) :
    persistStep i ea = i := by
  rcases persistStep_cases i ea with ⟨_, hp⟩ | ⟨hok, _⟩
  · exact hp
  · -- an accepted `Do` answers with a state
    obtain ⟨d, hd⟩ := doEvent_ok_state (machineOf i.machine) runAction i.state i.payload ea.1 ea.2 hok
    rw [doEv_snd, hd] at h; cases h

/-
  Part 2: statements that depend on what the callbacks do. `RoundInv` is carried along every run
  (induction over the event list, `phaseInv_do` of `Lemmas/RoundStep` for one accepted `Do`); the per-phase outcome
  theorems (`Lemmas/SigPhase`, `Lemmas/DkgPhases`, `Lemmas/MasterKeyPhase`) say what an accepted event does under it.
-/

def RoundInv (i : Instance) : Prop := poolState i.state = some i.machine ∧ phaseInv i.state i.payload

theorem machine_of_state {i : Instance} (h : poolState i.state = some i.machine) {s : St} (hs : i.state = s)
    {m : MachineId} (hp : poolState s = some m) : i.machine = m := by
  rw [hs, hp] at h; exact (Option.some.inj h).symm

theorem roundInv_step (i : Instance) (ea : Ev × Arg) (h : RoundInv i) : RoundInv (persistStep i ea) :=
  persistStep_inv phaseInv_do i ea h

/-- **Run theorem.** Every round, after any finite sequence of events (any events, participants,
payloads, timestamps, accepted or rejected), satisfies the phase invariant of the state it is in. -/
theorem round_invariant (id : String) (evs : List (Ev × Arg)) : RoundInv (run (Instance.create id) evs) := by
  apply run_induction roundInv_step
  exact ⟨poolState_eq _, rfl⟩

/-- **unanimous** (commits phase; deals and responses are `deals_received_outcome`,
`responses_received_outcome`, the invitation phase `sig_confirm_outcome`, key confirmation
`mk_received_outcome`). For every reachable round in the commits phase and every accepted
commit: the sender was still awaited (no participant contributes twice, unknown ids never),
and the round moves on to the deals phase exactly when this was the last of the `n` participants;
a late timestamp cancels; otherwise the phase continues. -/
theorem unanimous_commits (id : String) (evs : List (Ev × Arg)) (a : Arg)
    (hst : (run (Instance.create id) evs).state = sCommitsAwait)
    (hok : (doEvent dkgMachine runAction sCommitsAwait (run (Instance.create id) evs).payload eCommitsOk a).res = .ok) :
    ∃ dc, (run (Instance.create id) evs).payload.dkg = some dc ∧
    ∃ pid data ts part, a = .commit pid data ts ∧ getAt dc.quorum pid = some part ∧ part.status = 0 ∧
      (let out := doEvent dkgMachine runAction sCommitsAwait (run (Instance.create id) evs).payload eCommitsOk a
       (dc.expiresAt < ts ∧ out.state = sCommitsCancTo) ∨
       (¬ dc.expiresAt < ts ∧ cntDkg dc 1 + 1 = dc.quorum.length ∧ out.state = sCommitsNext) ∨
       (¬ dc.expiresAt < ts ∧ cntDkg dc 1 + 1 < dc.quorum.length ∧ out.state = sCommitsAwait)) := by
  have hinv := (round_invariant id evs).2
  rw [hst] at hinv
  obtain ⟨dc, hc⟩ := hinv
  refine ⟨dc, hc.hdkg, ?_⟩
  obtain ⟨pid, data, ts, part, ha, hg, hs, hcase⟩ := commits_received_outcome _ a dc hc hok
  refine ⟨pid, data, ts, part, ha, hg, hs, ?_⟩
  rcases hcase with ⟨h1, h2⟩ | ⟨h1, h2, h3, _⟩ | ⟨h1, h2, h3, _⟩
  · exact Or.inl ⟨h1, h2⟩
  · exact Or.inr (Or.inl ⟨h1, h2, h3⟩)
  · exact Or.inr (Or.inr ⟨h1, h2, h3⟩)

/-- **failure aborts**: in every phase of key generation an accepted error report puts the round
into that phase's cancelled state (and `cancel_absorbing` keeps it there) -/
theorem error_report_cancels (p : Payload) (a : Arg) :
    ((doEvent dkgMachine runAction sCommitsAwait p eCommitsErr a).res = .ok →
      cancelled (doEvent dkgMachine runAction sCommitsAwait p eCommitsErr a).state = true) ∧
    ((doEvent dkgMachine runAction sDealsAwait p eDealsErr a).res = .ok →
      cancelled (doEvent dkgMachine runAction sDealsAwait p eDealsErr a).state = true) ∧
    ((doEvent dkgMachine runAction sResponsesAwait p eResponsesErr a).res = .ok →
      cancelled (doEvent dkgMachine runAction sResponsesAwait p eResponsesErr a).state = true) ∧
    ((doEvent dkgMachine runAction sMKAwait p eMKErr a).res = .ok →
      cancelled (doEvent dkgMachine runAction sMKAwait p eMKErr a).state = true) := by
  refine ⟨fun h => ?_, fun h => ?_, fun h => ?_, fun h => ?_⟩
  · rw [commits_error_outcome p a h]; decide
  · rw [deals_error_outcome p a h]; decide
  · rw [responses_error_outcome p a h]; decide
  · rw [mk_error_outcome p a h]; decide

/-- non-vacuity: n = 2, t = 2 — both invited participants confirm, and the round reaches the point
where the node hands over to key generation -/
example : (run (Instance.create "r")
    [(eSigInit, .sigInit [⟨"alice", [1,2,3,4,5,6,7,8,9,10], [1,2,3,4,5,6,7,8,9,10]⟩, ⟨"bobby", [1,2,3,4,5,6,7,8,9,10], [1,2,3,4,5,6,7,8,9,10]⟩] 2 1000),
     (eSigConfirm, .sigPart 0 1001), (eSigConfirm, .sigPart 1 1002)]).state = sSigCollected := by
  decide +kernel

end Dc4bcVerif.Props.C05
