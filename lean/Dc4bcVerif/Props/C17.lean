/-
  C17 — baked withdrawal-credential messages equal the consensus-spec signing roots.
-/
import Dc4bcVerif.Model.Ssz
import Dc4bcVerif.Lemmas.SszLemmas
import Dc4bcVerif.Lemmas.BakedLemmas
import Dc4bcVerif.Gen.Baked

namespace Dc4bcVerif.Props.C17
open Dc4bcVerif.Gen.Ssz Dc4bcVerif.Model.Ssz

-- The specification, written from the Ethereum consensus specs.

def hexNibble (c : Char) : Nat :=
  if '0' ≤ c ∧ c ≤ '9' then c.toNat - 48 else if 'a' ≤ c ∧ c ≤ 'f' then c.toNat - 87 else 0

def hexBytesAux : List Char → Bytes
  | a :: b :: t => UInt8.ofNat (hexNibble a * 16 + hexNibble b) :: hexBytesAux t
  | _ => []

def hexBytes (s : String) : Bytes := hexBytesAux s.toList

/-- capella/beacon-chain.md: DOMAIN_BLS_TO_EXECUTION_CHANGE = DomainType('0x0A000000') -/
def DOMAIN_BLS_TO_EXECUTION_CHANGE : Bytes := hexBytes "0a000000"
/-- mainnet config: GENESIS_FORK_VERSION = 0x00000000 -/
def GENESIS_FORK_VERSION : Bytes := hexBytes "00000000"
/-- mainnet genesis_validators_root -/
def GENESIS_VALIDATORS_ROOT : Bytes := hexBytes "4b363db94e286120d76eb905340fdd4e54bfe9f06bf33ff6cf5ad27f511bfe95"
/-- Lido withdrawal BLS public key (blog.lido.fi/lido-withdrawal-key-ceremony) -/
def LIDO_WITHDRAWAL_BLS_PUBKEY : Bytes :=
  hexBytes "b67aca71f04b673037b54009b760f1961f3836e5714141c892afdb75ec0834dce6784d9c72ed8ad7db328cff8fe9f13e"
/-- Lido execution-layer withdrawal vault address -/
def LIDO_EXECUTION_ADDRESS : Bytes := hexBytes "b9d7934878b5fb9610b3fe8a5e441e8fad7e293f"

/-- `compute_fork_data_root(current_version, genesis_validators_root) = hash_tree_root(ForkData(…))` -/
def computeForkDataRoot (hash : HashFn) (version root : Bytes) : Bytes :=
  htrContainer hash [.bytesN version, .bytesN root]

/-- `compute_domain(domain_type, fork_version, genesis_validators_root) = domain_type + fork_data_root[:28]` -/
def computeDomain (hash : HashFn) (domainType version root : Bytes) : Bytes :=
  domainType ++ (computeForkDataRoot hash version root).take 28

/-- `compute_signing_root(obj, domain) = hash_tree_root(SigningData(hash_tree_root(obj), domain))` -/
def computeSigningRoot (hash : HashFn) (objRoot domain : Bytes) : Bytes :=
  htrContainer hash [.bytesN objRoot, .bytesN domain]

/-- `BLSToExecutionChange(validator_index: ValidatorIndex, from_bls_pubkey: BLSPubkey, to_execution_address: ExecutionAddress)` -/
def blsToExecutionChangeRoot (hash : HashFn) (idx : UInt64) (pubkey addr : Bytes) : Bytes :=
  htrContainer hash [.uint64 idx, .bytesN pubkey, .bytesN addr]

def specSigningRoot (hash : HashFn) (idx : UInt64) : Bytes :=
  computeSigningRoot hash (blsToExecutionChangeRoot hash idx LIDO_WITHDRAWAL_BLS_PUBKEY LIDO_EXECUTION_ADDRESS)
    (computeDomain hash DOMAIN_BLS_TO_EXECUTION_CHANGE GENESIS_FORK_VERSION GENESIS_VALIDATORS_ROOT)

/-- To kernel and unifier alike a literal is `String.ofList` of its characters, so this rewrites the
constants above. Evaluating `String.toList` on a literal instead decodes its UTF-8 bytes position
by position, which is slow to check and worse than linear in the length. -/
theorem hexBytes_ofList (l : List Char) : hexBytes (String.ofList l) = hexBytesAux l := by
  rw [hexBytes, String.toList_ofList]

/-- The five constants of rotation.go (regenerated from the source on every run)
are the specification's -/
theorem constants_ok :
    bytesOfNats domainBlsToExecutionChange = DOMAIN_BLS_TO_EXECUTION_CHANGE ∧
    bytesOfNats genesisForkVersion = GENESIS_FORK_VERSION ∧
    bytesOfNats genesisValidatorRoot = GENESIS_VALIDATORS_ROOT ∧
    bytesOfNats lidoBlsPubKeyBB = LIDO_WITHDRAWAL_BLS_PUBKEY ∧
    bytesOfNats toExecutionAddress = LIDO_EXECUTION_ADDRESS := by
  unfold DOMAIN_BLS_TO_EXECUTION_CHANGE GENESIS_FORK_VERSION GENESIS_VALIDATORS_ROOT
    LIDO_WITHDRAWAL_BLS_PUBKEY LIDO_EXECUTION_ADDRESS
  repeat rw [hexBytes_ofList]
  decide

/-- `ForkData.HashTreeRootWith` (generated op list) is the spec's `hash_tree_root(ForkData)` -/
theorem forkData_ok (hash : HashFn) {v r : Bytes} (hv : v ≠ []) (hr : r ≠ []) :
    codeForkDataRoot hash [some v, some r] = some (computeForkDataRoot hash v r) := by
  rw [codeForkDataRoot, runOps, forkDataOps, runOpsAux_putBytes hash (b := v) rfl hv,
    runOpsAux_putBytes hash (b := r) rfl hr, runOpsAux_merkleize]
  rfl

/-- `SigningData.HashTreeRootWith` is the spec's `hash_tree_root(SigningData)` -/
theorem signingData_ok (hash : HashFn) {val : String → Option SszVal} {o d : Bytes}
    (ho : val "ObjectRoot" = some (.bytesN o)) (hd : val "Domain" = some (.bytesN d))
    (ho0 : o ≠ []) (hd0 : d ≠ []) :
    runOps hash signingDataOps val = some (computeSigningRoot hash o d) := by
  rw [runOps, signingDataOps, runOpsAux_putBytes hash ho ho0, runOpsAux_putBytes hash hd hd0,
    runOpsAux_merkleize]
  rfl

/-- `BLSToExecutionChange.HashTreeRootWith` is the spec's `hash_tree_root` -/
theorem blsChange_ok (hash : HashFn) {val : String → Option SszVal} {idx : UInt64} {pk addr : Bytes}
    (hidx : val "ValidatorIndex" = some (.uint64 idx)) (hpk : val "FromBlsPubkey" = some (.bytesN pk))
    (haddr : val "ToExecutionAddress" = some (.bytesN addr)) (hpk0 : pk ≠ []) (haddr0 : addr ≠ []) :
    runOps hash bLSToExecutionChangeOps val = some (blsToExecutionChangeRoot hash idx pk addr) := by
  rw [runOps, bLSToExecutionChangeOps, runOpsAux_putUint64 hash hidx, runOpsAux_putBytes hash hpk hpk0,
    runOpsAux_putBytes hash haddr haddr0, runOpsAux_merkleize]
  rfl

/-- `computeDomain` is the spec's `compute_domain`: the copy into `[32]byte` neither cuts nor pads,
because a 4-byte domain type and 28 bytes of a 32-byte root fill it exactly -/
theorem domain_ok (hash : HashFn) (hlen : ∀ x, (hash x).length = 32) {t v r : Bytes}
    (ht : t.length = 4) (hv : v ≠ []) (hr : r ≠ []) :
    codeDomain hash [some t, some v, some r] = some (computeDomain hash t v r) := by
  have hargs : computeForkDataRootArgs.map (bindParams computeDomainParams [some t, some v, some r])
      = [some v, some r] := rfl
  have hfdlen : (computeForkDataRoot hash v r).length = 32 := by
    show (merkleize hash [_, _]).length = 32
    rw [merkleize_two]; exact hlen _
  have hfull : (t ++ (computeForkDataRoot hash v r).take 28).length = 32 := by
    rw [List.length_append, List.length_take, ht, hfdlen]; rfl
  simp only [codeDomain, hargs, forkData_ok hash hv hr]
  show some (padTo32 ((t ++ (computeForkDataRoot hash v r).take 28).take 32)) = _
  rw [List.take_of_length_le (Nat.le_of_eq hfull), padTo32_full _ hfull, computeDomain]

/-- For every 64-bit validator index and every hash function with 32-byte
output, `GetSigningRoot` as wired in rotation.go over the fastssz-generated hashers computes
`compute_signing_root(BLSToExecutionChange(index, Lido key, Lido address),
compute_domain(DOMAIN_BLS_TO_EXECUTION_CHANGE, GENESIS_FORK_VERSION, genesis_validators_root))`. -/
theorem code_eq_spec (hash : HashFn) (hlen : ∀ x, (hash x).length = 32) (idx : UInt64) :
    codeSigningRoot hash idx = some (specSigningRoot hash idx) := by
  obtain ⟨hc1, hc2, hc3, hc4, hc5⟩ := constants_ok
  rw [specSigningRoot, ← hc1, ← hc2, ← hc3, ← hc4, ← hc5]
  have hargs : computeDomainArgs.map globalVal = [some (bytesOfNats domainBlsToExecutionChange),
      some (bytesOfNats genesisForkVersion), some (bytesOfNats genesisValidatorRoot)] := rfl
  rw [codeSigningRoot, hargs, domain_ok hash hlen (t := bytesOfNats domainBlsToExecutionChange)
    (by decide) (by decide) (by decide)]
  dsimp only
  rw [blsChange_ok hash (idx := idx) (pk := bytesOfNats lidoBlsPubKeyBB)
    (addr := bytesOfNats toExecutionAddress) rfl rfl rfl (by decide) (by decide)]
  refine signingData_ok hash rfl rfl ?_ ?_
  · show merkleize hash [_, _, _] ≠ []
    rw [merkleize_three]
    exact List.ne_nil_of_length_pos (by rw [hlen]; omega)
  · exact List.append_ne_nil_of_left_ne_nil (by decide) _

open Dc4bcVerif.Model.Tasks Dc4bcVerif.Gen.Baked

theorem runs_ok : runsOk 0 allRuns = true := by decide +kernel

theorem baked_count : bakedIndices.length = 18632 := by
  unfold bakedIndices; rw [expand_length]; decide +kernel

/-- `strings.Split` yields one field more than there are indices (the trailing empty one) -/
theorem baked_fields : splitCount = 18633 ∧ oddFields = [(18632, "")] := by decide

/-- **baked_nodup**: strictly increasing in file order, hence no index appears twice -/
theorem baked_strictly_increasing : bakedIndices.Pairwise (· < ·) :=
  (expand_sorted 0 allRuns runs_ok).1

theorem baked_nodup : bakedIndices.Nodup :=
  baked_strictly_increasing.imp (fun h => Nat.ne_of_lt h)

theorem baked_small : ∀ v ∈ bakedIndices, v < 2 ^ 32 :=
  expand_bound (2 ^ 32) allRuns (by decide +kernel)

/-- Every position `0 … 18631` yields exactly one well-formed validator index -/
theorem baked_wellformed (pos : Nat) (h : pos < 18632) :
    ∃ v, reconstructBaked pos = .ok v ∧ bakedIndices[pos]? = some v ∧ v < 2 ^ 32 := by
  have hp : pos < bakedIndices.length := by rw [baked_count]; exact h
  have hsmall := baked_small _ (List.getElem_mem hp)
  refine ⟨bakedIndices[pos], ?_, List.getElem?_eq_getElem hp, hsmall⟩
  -- the branches: position out of range; index found (fits an int64, or not); no index at the position
  fun_cases reconstructBaked pos
  case case1 hr => rw [baked_fields.1] at hr; simp at hr; omega
  case case2 v hv _ => rw [Int.toNat_natCast, List.getElem?_eq_getElem hp] at hv; rw [Option.some.inj hv]
  case case3 v hv hl => rw [Int.toNat_natCast, List.getElem?_eq_getElem hp] at hv; cases hv; omega
  case case4 hn => rw [Int.toNat_natCast, List.getElem?_eq_getElem hp] at hn; cases hn

/-- A negative position, the trailing empty line (18 632) and everything
beyond are refused with an error — never a crash, never a message -/
theorem out_of_range_refused (id : Int) (h : id < 0 ∨ id ≥ 18632) :
    reconstructBaked id = .errRange ∨ reconstructBaked id = .errParse := by
  -- of the four branches only "index found and fits" answers `.ok`, and it needs a position inside the list
  fun_cases reconstructBaked id
  case case1 => exact .inl rfl
  case case2 hr v hv _ =>
    have := (List.getElem?_eq_some_iff.mp hv).1
    rw [baked_count] at this
    simp at hr; omega
  case case3 => exact .inr rfl
  case case4 => exact .inr rfl

/-- non-vacuity: the first and the last baked position -/
example : reconstructBaked 0 = .ok 52694 := by decide
example : ∃ v, reconstructBaked 18631 = .ok v := by
  obtain ⟨v, hv, _⟩ := baked_wellformed 18631 (by omega); exact ⟨v, hv⟩

end Dc4bcVerif.Props.C17
