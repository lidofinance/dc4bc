/-
  C14 — `save_offset` against a poll tick (fix 62396d7).

  A tick reads the offset ONCE, then applies the messages that follow it and saves, after each, that message's
  offset + 1. An offset saved through the API in the middle of a tick is overwritten by the tick's next save
  (`saveoffset_inside_tick_is_lost`: explicit schedule whose result is that of neither serial order). With the tick
  and `SaveOffset` excluding each other (`SrcFacts.tick_and_saveoffset_exclude`: both hold `tickMu` from their first
  statement to their return) the tick is one step, and the only schedules are the two serial orders
  (`locked_tick_is_serial`).
-/
import Dc4bcVerif.Model.Sched

namespace Dc4bcVerif.Props.C14Tick
open Dc4bcVerif.Model.Sched

def tickSteps (o : Nat) : Nat → List RStep
  | 0 => []
  | n + 1 => .apply o :: .save (o + 1) :: tickSteps (o + 1) n

def tick (n : Nat) (s : RState) : RState := rrun s (tickSteps s.offset n)

def saveOffset (k : Nat) (s : RState) : RState := rstep s (.save k)

theorem tickSteps_offset (m o : Nat) (t : RState) : (rrun t (tickSteps o (m + 1))).offset = o + m + 1 := by
  induction m generalizing o t with
  | zero => rfl
  | succ m ih =>
    have := ih (o + 1) (rstep (rstep t (.apply o)) (.save (o + 1)))
    simp only [tickSteps, rrun, List.foldl_cons] at this ⊢
    rw [this]; omega

theorem tick_offset (n : Nat) (s : RState) : (tick n s).offset = s.offset + n := by
  cases n with
  | zero => rfl
  | succ m => exact tickSteps_offset m s.offset s

/-- the two serial orders: the operator's offset first (the tick then starts from it), or the tick first -/
def apiThenTick (k n : Nat) (s : RState) : RState := tick n (saveOffset k s)
def tickThenApi (k n : Nat) (s : RState) : RState := saveOffset k (tick n s)

theorem apiThenTick_offset (k n : Nat) (s : RState) : (apiThenTick k n s).offset = k + n := by
  unfold apiThenTick; rw [tick_offset]; simp [saveOffset, rstep]

theorem tickThenApi_offset (k n : Nat) (s : RState) : (tickThenApi k n s).offset = k := by
  simp [tickThenApi, saveOffset, rstep]

/-- **the defect of the pinned tree**: the operator rewinds to 3 while a tick that started at offset 5 is between its two
messages. The tick's second save puts 7 back: not 5 (rewind, then a tick of two from 3), not 3 (tick, then rewind). -/
theorem saveoffset_inside_tick_is_lost :
    let s0 : RState := { applied := [], offset := 5 }
    let sched : List RStep := [.apply 5, .save 6, .save 3, .apply 6, .save 7]
    Interleaves (tickSteps 5 2) [.save 3] sched ∧
    (rrun s0 sched).offset = 7 ∧
    (rrun s0 sched).offset ≠ (apiThenTick 3 2 s0).offset ∧
    (rrun s0 sched).offset ≠ (tickThenApi 3 2 s0).offset := by
  refine ⟨?_, by decide, by decide, by decide⟩
  exact .left (.left (.right (.left (.left .nil))))

/-- … and in general: an offset saved strictly inside a tick of n ≥ 1 remaining messages does not survive it -/
theorem saved_inside_is_overwritten (k o n : Nat) (s : RState) :
    (rrun (rstep s (.save k)) (tickSteps o (n + 1))).offset = o + n + 1 :=
  tickSteps_offset n o _

/-- **with the lock** (the tick is one step, the request is one step): every schedule is one of the two serial orders -/
theorem locked_tick_is_serial (k n : Nat) (s : RState) (sched : List (RState → RState))
    (h : Interleaves [tick n] [saveOffset k] sched) :
    runSteps sched s = tickThenApi k n s ∨ runSteps sched s = apiThenTick k n s := by
  cases h with
  | left h1 =>
    cases h1 with
    | right h2 => cases h2; left; rfl
  | right h1 =>
    cases h1 with
    | left h2 => cases h2; right; rfl

/-- non-vacuity: both schedules exist -/
example : Interleaves [tick 2] [saveOffset 3] [tick 2, saveOffset 3] := .left (.right .nil)
example : Interleaves [tick 2] [saveOffset 3] [saveOffset 3, tick 2] := .right (.left .nil)

end Dc4bcVerif.Props.C14Tick
