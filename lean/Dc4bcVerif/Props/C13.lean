/-
  C13 — a hot node killed at any instant resumes without losing messages or operations.

  `Model/Crash.lean` is the poll loop as a sequence of durable writes with a kill between any two of
  them. The theorems (one step lemma, `attempt_env`, for a handler that reads an environment at every start of the
  process; `crash_safe` is its fold over the schedule for a handler that reads none, `crash_safe_env` the fold in general,
  with the instance for the clock in `Props/C13Clock.lean`):
  * `crash_safe`: with the write order (operation, round state, offset) — the order the translator
    reads off the source on every run (`order_in_source`) — and a handler that refuses, or repeats
    without effect, a message it has already applied (`ReapplySafe`), EVERY crash schedule (any number
    of kills, at any write, on any messages) leaves the store equal to a crash-free run of some prefix
    of the log, possibly with the next message partially applied; and once the node has worked through
    the log the store IS the crash-free one (`crash_safe_final`): no message applied twice in effect,
    no operation lost.
  * `old_order_loses_operation`: with the order (round state, operation) — the pinned tree's — there is
    a handler and a single kill after which the operation is never created (the defect behind fix e9eb70c).
  * the answer path: `answer_order_in_source` (the result is posted before the operation is retired, so a
    kill in between leaves the operation pending and the result can be submitted again).
  `ReapplySafe` is PROVED for the model's node handler, for every node state and message, in
  `Props/C13Fsm.lean` (round machines), `Props/C13Node.lean` and `Props/C13Start.lean` (`node_reapply`,
  `node_reapplySafe`), so `crash_safe` holds of it without assumption (`node_crash_safe`, `node_crash_safe_final`).
  Assumed, not proved: atomicity of a single LevelDB write, durability of the board file; that the real handler is
  the model's is the tie (nodediff, crashdiff), not a theorem.
-/
import Dc4bcVerif.Model.Crash
import Dc4bcVerif.Gen.Effects

namespace Dc4bcVerif.Props.C13
open Dc4bcVerif.Model.Crash

variable {S M O : Type} [DecidableEq O]

/-- the order after fix e9eb70c -/
def newOrder : List W := [.op, .state]
/-- the order of the pinned tree -/
def oldOrder : List W := [.state, .op]

/-- a message that has been applied is refused when it is handled again, or accepted without changing the
state and without asking for anything new -/
def ReapplySafe (h : Handler S M O) : Prop :=
  ∀ s m s' o, h s m = some (s', o) → h s' m = none ∨ ∃ o', h s' m = some (s', o') ∧ (o' = none ∨ o' = o)

theorem putOnce_idem (l : List O) (o : Option O) : putOnce (putOnce l o) o = putOnce l o := by
  cases o with
  | none => rfl
  | some x =>
    unfold putOnce
    by_cases hx : x ∈ l
    · simp [hx]
    · simp [hx]

def next (h : Handler S M O) (log : List M) (c : Store S O) : Store S O :=
  match log[c.offset]? with
  | none => c
  | some m => cleanStep h c m

/-- `d` is the crash-free store `c`, possibly with the message at `c`'s offset partially applied: its operation
written, and maybe its state too, but not the offset -/
def Partial (h : Handler S M O) (log : List M) (c d : Store S O) : Prop :=
  d = c ∨ ∃ m s' o, log[c.offset]? = some m ∧ h c.state m = some (s', o) ∧
    d.offset = c.offset ∧ d.ops = putOnce c.ops o ∧ (d.state = c.state ∨ d.state = s')

omit [DecidableEq O] in
theorem store_ext (a b : Store S O) (h1 : a.state = b.state) (h2 : a.ops = b.ops) (h3 : a.offset = b.offset) : a = b := by
  cases a; cases b; simp_all

theorem stepPrefix_accepted (h : Handler S M O) (d : Store S O) (m : M) (k : Nat) (s' : S) (o : Option O)
    (hh : h d.state m = some (s', o)) :
    stepPrefix newOrder h d m k =
      { state := if 2 ≤ k then s' else d.state, ops := if 1 ≤ k then putOnce d.ops o else d.ops,
        offset := if 3 ≤ k then d.offset + 1 else d.offset } := by
  unfold stepPrefix
  rw [hh]
  match k with
  | 0 => rfl
  | 1 => rfl
  | 2 => rfl
  | k + 3 => simp [newOrder, applyW]

theorem stepPrefix_refused (order : List W) (h : Handler S M O) (d : Store S O) (m : M) (k : Nat) (hh : h d.state m = none) :
    stepPrefix order h d m k = if k = 0 then d else { d with offset := d.offset + 1 } := by
  unfold stepPrefix
  rw [hh]

theorem attempt_eq (order : List W) (h : Handler S M O) (log : List M) (d : Store S O) (c : Option Nat) :
    attempt order h log d c =
      match log[d.offset]? with
      | none => d
      | some m => stepPrefix order h d m (c.getD (order.length + 1)) := by
  unfold attempt
  cases c <;> rfl

theorem stepPrefix_zero (order : List W) (h : Handler S M O) (d : Store S O) (m : M) : stepPrefix order h d m 0 = d := by
  unfold stepPrefix
  split
  · rfl
  · exact if_neg (Nat.not_lt_zero _)

section env
variable {E : Type} (Sane : E → Prop) (h : E → Handler S M O)

/-- `ReapplySafe` across environments: a message accepted in one is, on the resulting state and in any other, refused or
accepted without change -/
def ReapplySafeEnv : Prop :=
  ∀ e1 e2 s m s' o, Sane e1 → Sane e2 → h e1 s m = some (s', o) →
    h e2 s' m = none ∨ ∃ o', h e2 s' m = some (s', o') ∧ (o' = none ∨ o' = o)

/-- whether a message is accepted, and which operation it asks for, does not depend on the environment -/
def AcceptIndepEnv : Prop := ∀ e1 e2 s m, Sane e1 → Sane e2 → (h e1 s m).map (·.2) = (h e2 s m).map (·.2)

def PartialEnv (log : List M) (c d : Store S O) : Prop :=
  d = c ∨ ∃ e, Sane e ∧ ∃ m s' o, log[c.offset]? = some m ∧ h e c.state m = some (s', o) ∧
    d.offset = c.offset ∧ d.ops = putOnce c.ops o ∧ (d.state = c.state ∨ d.state = s')

variable {Sane h}

/-- `y` is what the first `n` writes of the accepted message leave: the operation is there, the state is `s'` from the second
write on and `s0` before, the offset moves with the third. `s0` is a variable, not `c.state`, because an earlier start may have
written the state already (`hs0`). Such a store is `c` with the message partially applied, or the crash-free continuation. -/
theorem written {e : E} (he : Sane e) {log : List M} {c : Store S O} {m : M} {s' : S} {o : Option O}
    (hm : log[c.offset]? = some m) (hh : h e c.state m = some (s', o)) (n : Nat) (y : Store S O) (s0 : S)
    (hops : y.ops = putOnce c.ops o) (hoff : y.offset = if 3 ≤ n then c.offset + 1 else c.offset)
    (hst : y.state = if 2 ≤ n then s' else s0) (hs0 : s0 = c.state ∨ s0 = s') :
    PartialEnv Sane h log c y ∨ ∃ e, Sane e ∧ y = next (h e) log c := by
  by_cases h3 : 3 ≤ n
  · rw [if_pos (by omega)] at hst
    rw [if_pos h3] at hoff
    refine .inr ⟨e, he, store_ext _ _ ?_ ?_ ?_⟩ <;> unfold next cleanStep <;> simp [hm, hh, hst, hops, hoff]
  · rw [if_neg h3] at hoff
    refine .inl (.inr ⟨e, he, m, s', o, hm, hh, hoff, hops, ?_⟩)
    rw [hst]
    split
    · exact .inr rfl
    · exact hs0

variable (Sane h)

/-- one start of the process, in environment `e2`, on a store that is the crash-free `c` with (possibly) its next message
partially applied: the result is again of that kind, or is the crash-free continuation of `c` - for the environment in
which the state was, or now is, written -/
theorem attempt_env (hsafe : ReapplySafeEnv Sane h) (hind : AcceptIndepEnv Sane h)
    (log : List M) (c x : Store S O) (hx : PartialEnv Sane h log c x)
    (k : Option Nat) (e2 : E) (he2 : Sane e2) :
    PartialEnv Sane h log c (attempt newOrder (h e2) log x k) ∨
      ∃ e, Sane e ∧ attempt newOrder (h e2) log x k = next (h e) log c := by
  rw [attempt_eq]
  generalize k.getD (newOrder.length + 1) = n
  cases hm : log[x.offset]? with
  | none => exact .inl hx
  | some m =>
    dsimp only
    -- killed before the first write: nothing happened
    rcases Nat.eq_zero_or_pos n with rfl | hn
    · rw [stepPrefix_zero]; exact .inl hx
    rcases hx with rfl | ⟨e, he, m', s', o, hm', hh, hoff, hops, hst⟩
    · -- on the crash-free store itself
      cases hh : h e2 x.state m with
      | none =>
        rw [stepPrefix_refused _ _ _ _ _ hh, if_neg (by omega)]
        exact .inr ⟨e2, he2, by unfold next cleanStep; simp [hm, hh]⟩
      | some r =>
        rw [stepPrefix_accepted _ _ _ _ _ _ hh]
        exact written he2 hm hh n _ x.state (if_pos hn) rfl rfl (.inl rfl)
    · rw [hoff, hm'] at hm
      cases hm
      rcases hst with hs | hs
      · -- operation written, state not: handled again from the old state, which accepts it again and asks for the same operation
        have hi := hind e e2 c.state m he he2
        rw [hh] at hi
        cases hh2 : h e2 c.state m with
        | none => rw [hh2] at hi; cases hi
        | some r =>
          rw [hh2] at hi
          cases Option.some.inj hi
          rw [stepPrefix_accepted _ _ _ _ _ _ (hs ▸ hh2), hops, hs, hoff, putOnce_idem]
          exact written he2 hm' hh2 n _ c.state (ite_self _) rfl rfl (.inl rfl)
      · -- operation and state written, offset not: handled again from the new state
        rcases hsafe e e2 c.state m s' o he he2 hh with hrej | ⟨o', hacc, ho'⟩
        · rw [stepPrefix_refused _ _ _ _ _ (hs ▸ hrej), if_neg (by omega)]
          exact written he hm' hh 3 _ s' hops (by simp [hoff]) hs (.inr rfl)
        · have hidem : putOnce (putOnce c.ops o) o' = putOnce c.ops o := by
            rcases ho' with rfl | rfl
            · rfl
            · exact putOnce_idem _ _
          rw [stepPrefix_accepted _ _ _ _ _ _ (hs ▸ hacc), hops, hs, hoff, hidem]
          exact written he hm' hh n _ s' (ite_self _) rfl rfl (.inr rfl)

def runEnv (log : List M) (d : Store S O) (sched : List (Option Nat × E)) : Store S O :=
  sched.foldl (fun x c => attempt newOrder (h c.2) log x c.1) d

def cleanEnv (log : List M) (d : Store S O) (es : List E) : Store S O := es.foldl (fun c e => next (h e) log c) d

/-- **Crash safety for a handler that reads an environment** (a clock, a configuration) afresh at every start of the process:
after any crash schedule the store is a crash-free run, each message handled in the environment of the start that wrote
its state, possibly with the next message partially applied. -/
theorem crash_safe_env (hsafe : ReapplySafeEnv Sane h) (hind : AcceptIndepEnv Sane h)
    (log : List M) (d : Store S O) (sched : List (Option Nat × E)) (hs : ∀ c ∈ sched, Sane c.2) :
    ∃ es, (∀ e ∈ es, Sane e) ∧ PartialEnv Sane h log (cleanEnv h log d es) (runEnv h log d sched) := by
  refine List.foldlRecOn (motive := fun x => ∃ es, (∀ e ∈ es, Sane e) ∧ PartialEnv Sane h log (cleanEnv h log d es) x)
    sched _ ⟨[], nofun, .inl rfl⟩ ?_
  rintro x ⟨es, hes, hx⟩ k hk
  rcases attempt_env Sane h hsafe hind log _ x hx k.1 k.2 (hs k hk) with h1 | ⟨e, he, h1⟩
  · exact ⟨es, hes, h1⟩
  · refine ⟨es ++ [e], List.forall_mem_append.mpr ⟨hes, List.forall_mem_singleton.mpr he⟩, .inl ?_⟩
    unfold cleanEnv; rw [List.foldl_append]; exact h1

end env

/-- **crash_safe.** For every handler that is safe to re-apply, every log, every initial store and EVERY crash
schedule: what is on disk is a crash-free store of some prefix of the log, possibly with the next message
partially applied (operation first, then state, then offset). -/
theorem crash_safe (h : Handler S M O) (hsafe : ReapplySafe h) (log : List M) (d : Store S O) (sched : List (Option Nat)) :
    ∃ j, Partial h log (clean h log d j) (run newOrder h log d sched) := by
  refine List.foldlRecOn (motive := fun x => ∃ j, Partial h log (clean h log d j) x) sched _ ⟨0, .inl rfl⟩ ?_
  rintro x ⟨j, hx⟩ k _
  -- the step lemma for a handler that reads no environment
  rcases attempt_env (fun _ : Unit => True) (fun _ => h) (fun _ _ s m s' o _ _ => hsafe s m s' o) (fun _ _ _ _ _ _ => rfl)
    log _ x (hx.imp id fun hp => ⟨(), trivial, hp⟩) k () trivial with (h1 | ⟨_, _, h1⟩) | ⟨_, _, h1⟩
  · exact ⟨j, .inl h1⟩
  · exact ⟨j, .inr h1⟩
  · exact ⟨j + 1, .inl h1⟩

theorem Partial.done {h : Handler S M O} {log : List M} {c d : Store S O} (hp : Partial h log c d)
    (hdone : log.length ≤ d.offset) : d = c := by
  rcases hp with hp | ⟨m, _, _, hm, _, hoff, _, _⟩
  · exact hp
  · rw [hoff] at hdone
    rw [List.getElem?_eq_none hdone] at hm
    cases hm

/-- once the node has worked through the log, nothing partial is left: the store is the crash-free one -/
theorem crash_safe_final (h : Handler S M O) (hsafe : ReapplySafe h) (log : List M) (d : Store S O) (sched : List (Option Nat))
    (hdone : log.length ≤ (run newOrder h log d sched).offset) :
    ∃ j, run newOrder h log d sched = clean h log d j := by
  obtain ⟨j, hp⟩ := crash_safe h hsafe log d sched
  exact ⟨j, hp.done hdone⟩

/-- **old_order_loses_operation.** With the pinned tree's order (round state, then operation) a single kill between
the two writes loses the operation for good: the message is refused when handled again, the node completes the
log, and the operation the crash-free run offers is not there. Handler: accept `true` in state `0` (moving to `1`,
asking for operation `7`), refuse everything else — it is `ReapplySafe`. -/
theorem old_order_loses_operation :
    ∃ (h : Handler Nat Bool Nat), ReapplySafe h ∧
      let log := [true]
      let d : Store Nat Nat := { state := 0, ops := [], offset := 0 }
      let crashed := run oldOrder h log d [some 1, none]
      crashed.offset = 1 ∧ crashed.state = (clean h log d 1).state ∧ (clean h log d 1).ops = [7] ∧ crashed.ops = [] := by
  refine ⟨fun s m => if s = 0 ∧ m = true then some (1, some 7) else none, ?_, ?_⟩
  · intro s m s' o hh
    left
    by_cases hc : s = 0 ∧ m = true
    · simp only [hc, and_self, ↓reduceIte, Option.some.injEq, Prod.mk.injEq] at hh
      rw [← hh.1]; simp
    · simp only [hc, ↓reduceIte] at hh; cases hh
  · decide

/-- and the same schedule is harmless with the new order -/
example :
    let h : Handler Nat Bool Nat := fun s m => if s = 0 ∧ m = true then some (1, some 7) else none
    let d : Store Nat Nat := { state := 0, ops := [], offset := 0 }
    (run newOrder h [true] d [some 1, none]).ops = [7] ∧ (run newOrder h [true] d [some 1, none]).state = 1 := by
  decide

def callsOf (f : String) : List String := ((Gen.Effects.effects.find? (fun p => p.1 == f)).map (·.2)).getD []

def before (l : List String) (a b : String) : Bool :=
  match l.idxOf? a, l.idxOf? b with
  | some i, some j => i < j
  | _, _ => false

/-- **order_in_source.** In `handleMessage` the signature store is written first, then the operation is stored, then
the round state is saved; the poll tick (`tick`, which is all `Poll` does when its ticker fires) saves the offset after
`ProcessMessage`. (Generated from /repo on every run.) -/
theorem order_in_source :
    before (callsOf "handleMessage") "s.processSignatureProposal" "storeOperation" = true ∧
    before (callsOf "handleMessage") "storeOperation" "s.fsmService.SaveFSM" = true ∧
    before (callsOf "handleMessage") "s.broadcastReconstructedSignatures" "s.fsmService.SaveFSM" = true ∧
    (callsOf "ProcessMessage").contains "s.handleMessage" = true ∧
    callsOf "Poll" = ["s.tick"] ∧
    before (callsOf "tick") "s.ProcessMessage" "<*ast.CallExpr>.SaveOffset" = true := by
  decide +kernel

/-- **answer_order_in_source.** `executeOperation` posts the result before it retires the operation (and, for a
re-initialisation, saves the round before it retires it): a kill in between leaves the operation pending, so
the same result can be submitted again; the other order would lose it. -/
theorem answer_order_in_source :
    before (callsOf "executeOperation") "s.storage.Send" "s.opService.DeleteOperation" = true ∧
    before (callsOf "executeOperation") "s.fsmService.SaveFSM" "s.opService.DeleteOperation" = true := by
  decide +kernel

end Dc4bcVerif.Props.C13
