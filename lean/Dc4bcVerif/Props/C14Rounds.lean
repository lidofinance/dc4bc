/-
  C14, the stored rounds: all rounds of a node live in ONE value (`<topic>_fsm_state`), and `SaveFSM` is a read-modify-write
  of that value (read all rounds, replace one, write all back). Two such sequences that interleave lose an update — of
  ANOTHER round as well (`unlocked_save_loses_round`: explicit interleaving; found on the real node by scheddiff:
  finishing a re-initialisation ∥ the poller opening another round, defect repaired by the `fix:` commit that adds
  `roundsMu`). Under a common lock the sequences are atomic, and atomic saves of different rounds commute
  (`locked_saves_commute`), so either serial order gives the same stored rounds.
  `rounds_rmw_locked`: on this tree every method of `BaseNodeService` that writes a round does so under `roundsMu`
  (`Gen/RoundLock.lean`, regenerated from node_service.go on every run).
-/
import Dc4bcVerif.Gen.RoundLock
import Dc4bcVerif.Lemmas.NodeSteps

namespace Dc4bcVerif.Props.C14Rounds
open Dc4bcVerif.Gen Dc4bcVerif.Model Dc4bcVerif.Model.Node

theorem rounds_rmw_locked : RoundLock.roundWriters.all (fun p => p.2) = true := by decide

/-- the writers found are the three known ones (the fact is not vacuous) -/
theorem round_writers_known : RoundLock.roundWriters.map (fun p => p.1) = ["executeOperation", "handleMessage", "reinitDKG"] := rfl

variable {β : Type}

/-- `SaveFSM` as one atomic step on the stored value -/
def save (blob : List (String × β)) (k : String) (v : β) : List (String × β) := assocSet blob k v

/-- atomic saves of different rounds commute, as far as any reader can tell -/
theorem locked_saves_commute (blob : List (String × β)) (k1 k2 : String) (v1 v2 : β) (h : k1 ≠ k2) (k : String) :
    lookupS (save (save blob k1 v1) k2 v2) k = lookupS (save (save blob k2 v2) k1 v1) k := by
  unfold save
  rw [lookupS_assocSet, lookupS_assocSet, lookupS_assocSet, lookupS_assocSet]
  by_cases e1 : k1 = k
  · rw [if_neg fun e2 => h (e1.trans e2.symm), if_pos e1, if_pos e1]
  · rw [if_neg e1, if_neg e1]

/-- the interleaving `read₁ read₂ write₁ write₂` of two unlocked saves: the second writer writes back what it read -/
def interleaved (blob : List (String × β)) (_k1 k2 : String) (_v1 v2 : β) : List (String × β) :=
  save blob k2 v2   -- thread 1's write (save blob k1 v1) is overwritten by thread 2's, computed from the old value

/-- **unlocked_save_loses_round.** Without the lock, saving round `k2` can undo a concurrent save of ANOTHER round `k1`:
after the interleaving the node holds no round `k1`, whereas after either serial order it does. -/
theorem unlocked_save_loses_round (k1 k2 : String) (v1 v2 : β) (h : k1 ≠ k2) :
    lookupS (interleaved ([] : List (String × β)) k1 k2 v1 v2) k1 = none ∧
    lookupS (save (save [] k1 v1) k2 v2) k1 = some v1 ∧ lookupS (save (save [] k2 v2) k1 v1) k1 = some v1 := by
  unfold interleaved save
  exact ⟨(lookupS_assocSet_ne _ _ _ _ h).trans rfl, (lookupS_assocSet_ne _ _ _ _ h).trans (lookupS_assocSet_eq _ _ _),
    lookupS_assocSet_eq _ _ _⟩

end Dc4bcVerif.Props.C14Rounds
