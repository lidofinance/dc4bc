/-
  C13 with a clock: every start of the process reads its own clock. The handler takes the clock reading as an
  argument; a retry after a kill happens at a later reading than the attempt that was killed. Two facts about the
  handler are needed (both proved for the node model in this file):
  * `ReapplySafeT`: a message accepted at one reading is, on the resulting state and at ANY other reading, refused or
    accepted without change (`C13Node.node_reapply` is exactly this);
  * `AcceptIndep`: whether a message is accepted, and which operation it asks for, does not depend on the reading
    (the resulting STATE does: a hand-over stamps the new phase with the clock).
  Then for every crash schedule with its clock readings the store is a crash-free run — each message handled at the
  reading of the attempt that wrote its state — possibly with the next message partially applied (`crash_safe_clock`,
  which is `C13.crash_safe_env` with the clock as the environment).

  The vocabulary below IS that of the environment section of `Props/C13.lean` at `E := Time`, by unfolding, and the two
  clock theorems use this without a rewrite: `HandlerT S M O` is `Time → Handler S M O`; `runT` (a fold of `attemptT`),
  `cleanT` (a fold of `nextT`) are `runEnv`, `cleanEnv`; `ReapplySafeT Sane`, `AcceptIndep Sane` are `ReapplySafeEnv Sane`,
  `AcceptIndepEnv Sane`; only `PartialT` differs from `PartialEnv`, in the order of its bound variables. A new statement about
  a handler that reads something at every start is best made in the vocabulary of `Props/C13.lean`.
-/
import Dc4bcVerif.Props.C13Start

namespace Dc4bcVerif.Props.C13Clock
open Dc4bcVerif.Model Dc4bcVerif.Model.Crash Dc4bcVerif.Props.C13

variable {S M O : Type} [DecidableEq O]

abbrev HandlerT (S M O : Type) := Time → Handler S M O

def attemptT (h : HandlerT S M O) (log : List M) (d : Store S O) (c : Option Nat × Time) : Store S O :=
  attempt newOrder (h c.2) log d c.1

def runT (h : HandlerT S M O) (log : List M) (d : Store S O) (sched : List (Option Nat × Time)) : Store S O :=
  sched.foldl (attemptT h log) d

def nextT (h : HandlerT S M O) (log : List M) (t : Time) (c : Store S O) : Store S O := next (h t) log c

def cleanT (h : HandlerT S M O) (log : List M) (d : Store S O) (ts : List Time) : Store S O :=
  ts.foldl (fun c t => nextT h log t c) d

variable (Sane : Time → Prop)

def ReapplySafeT (h : HandlerT S M O) : Prop :=
  ∀ t1 t2 s m s' o, Sane t1 → Sane t2 → h t1 s m = some (s', o) →
    h t2 s' m = none ∨ ∃ o', h t2 s' m = some (s', o') ∧ (o' = none ∨ o' = o)

def AcceptIndep (h : HandlerT S M O) : Prop :=
  ∀ t1 t2 s m, Sane t1 → Sane t2 → (h t1 s m).map (·.2) = (h t2 s m).map (·.2)

def PartialT (h : HandlerT S M O) (log : List M) (c d : Store S O) : Prop :=
  d = c ∨ ∃ m t s' o, Sane t ∧ log[c.offset]? = some m ∧ h t c.state m = some (s', o) ∧
    d.offset = c.offset ∧ d.ops = putOnce c.ops o ∧ (d.state = c.state ∨ d.state = s')

/-- **crash_safe_clock.** Every crash schedule, every clock reading per start: the store is a crash-free run (each message
handled at the reading of the start that wrote its state), possibly with the next message partially applied. -/
theorem crash_safe_clock (h : HandlerT S M O) (hsafe : ReapplySafeT Sane h) (hind : AcceptIndep Sane h) (log : List M) (d : Store S O)
    (sched : List (Option Nat × Time)) (hs : ∀ c ∈ sched, Sane c.2) :
    ∃ ts, (∀ t ∈ ts, Sane t) ∧ PartialT Sane h log (cleanT h log d ts) (runT h log d sched) := by
  obtain ⟨ts, hts, hp | ⟨t, ht, m, s', o, hp⟩⟩ := crash_safe_env Sane h hsafe hind log d sched hs
  · exact ⟨ts, hts, .inl hp⟩
  · exact ⟨ts, hts, .inr ⟨m, t, s', o, ht, hp⟩⟩

theorem crash_safe_clock_final (h : HandlerT S M O) (hsafe : ReapplySafeT Sane h) (hind : AcceptIndep Sane h) (log : List M) (d : Store S O)
    (sched : List (Option Nat × Time)) (hs : ∀ c ∈ sched, Sane c.2) (hdone : log.length ≤ (runT h log d sched).offset) :
    ∃ ts, (∀ t ∈ ts, Sane t) ∧ runT h log d sched = cleanT h log d ts := by
  obtain ⟨ts, hts, hp | ⟨_, _, hp⟩⟩ := crash_safe_env Sane h hsafe hind log d sched hs
  · exact ⟨ts, hts, hp⟩
  · exact ⟨ts, hts, Partial.done (.inr hp) hdone⟩

section node
open Dc4bcVerif.Gen Dc4bcVerif.Model.Node Dc4bcVerif.Lemmas.NodeLocal Dc4bcVerif.Props.C13Node

/-- a clock that shows a time after the zero time (year 1) -/
def SaneClock (t : Time) : Prop := zeroTime < t

/-- what of a handling the crash model (and the board) sees: outcome, operation, broadcasts — not the stored stamps -/
def seenPM (r : PMOut) : Outcome × Option NOp × List Sent := (r.out, r.op, r.sent)

/-- `finish` when no batch was collected: the instance only goes into the stored dump -/
theorem finish_nocollect (st2 : NodeSt) (i5 : Instance) (rs5 : Option St) (rd5 : Option RespData) (m : NMsg) (now : Time)
    (payloadOf : Tasks.Msg → Bytes) (hc : (rs5 == some .s_state_signing_partial_signs_collected) = false) :
    seenPM (finish st2 i5 rs5 rd5 m now payloadOf) =
      (match placeholders st2 m payloadOf with
       | none => (Outcome.reject, none, [])
       | some _ => (Outcome.ok, opOf rs5 rd5 m, [])) := by
  unfold finish seenPM reconstructStep restartAfterCollect opOf
  simp only [hc, Bool.false_eq_true, ↓reduceIte]
  cases placeholders st2 m payloadOf with
  | none => rfl
  | some st3 => cases rs5 <;> cases rd5 <;> rfl

def finishOn (st2 : NodeSt) (m : NMsg) (n : Time) (payloadOf : Tasks.Msg → Bytes) : Option (Instance × Option St × Option RespData) → PMOut
  | none => rejectWith st2
  | some (i, rs, rd) => finish st2 i rs rd m n payloadOf

theorem finishOn_indep (st2 : NodeSt) (m : NMsg) (payloadOf : Tasks.Msg → Bytes) (n1 n2 : Time)
    (x1 x2 : Option (Instance × Option St × Option RespData)) (hx : x1.map (·.2) = x2.map (·.2))
    (hnc : ∀ i rs rd, x1 = some (i, rs, rd) → ∃ s, rs = some s ∧ s ≠ sCOLLECTED) :
    seenPM (finishOn st2 m n1 payloadOf x1) = seenPM (finishOn st2 m n2 payloadOf x2) := by
  cases x1 <;> cases x2 <;> try cases hx
  · rfl
  · rename_i x y
    obtain ⟨i, rs, rd⟩ := x
    obtain ⟨j, rs', rd'⟩ := y
    cases (Option.some.inj hx : (rs, rd) = (rs', rd'))
    obtain ⟨s, rfl, hne⟩ := hnc _ _ _ rfl
    have hb : (some s == some St.s_state_signing_partial_signs_collected) = false := by simpa using hne
    unfold finishOn
    rw [finish_nocollect _ _ _ _ _ _ _ hb, finish_nocollect _ _ _ _ _ _ _ hb]

theorem afterDo_indep (st2 : NodeSt) (i3 : Instance) (o3 : Out) (m : NMsg) (n1 n2 : Time) (payloadOf : Tasks.Msg → Bytes)
    (s1 : SaneClock n1) (s2 : SaneClock n2) :
    seenPM (afterDo st2 i3 o3 m n1 payloadOf) = seenPM (afterDo st2 i3 o3 m n2 payloadOf) := by
  by_cases c1 : (respStateOf o3 == some .s_state_sig_proposal_collected) = true
  · -- handed to the key-generation machine, where no second hand-over follows
    have hf : ∀ n, afterDo st2 i3 o3 m n payloadOf = finishOn st2 m n payloadOf (handOver i3 eDkgInit n) := by
      intro n
      unfold afterDo firstHandOver finishOn
      simp only [c1, ↓reduceIte]
      cases h : handOver i3 eDkgInit n with
      | none => rfl
      | some x =>
        obtain ⟨_, _, hrs, _, hnmk, _⟩ := dkginit_handOver h
        have : (x.2.1 == some St.s_state_dkg_master_key_collected) = false := by rw [hrs]; simpa using hnmk
        unfold secondHandOver
        simp only [this, Bool.false_eq_true, ↓reduceIte]
    rw [hf n1, hf n2]
    exact finishOn_indep st2 m payloadOf n1 n2 _ _ (handOver_indep i3 eDkgInit (Or.inl rfl) n1 n2 s1 s2)
      (fun i rs rd h => ⟨_, (dkginit_handOver h).2.2.1, (dkginit_handOver h).2.2.2.2.2⟩)
  · have c1' : (respStateOf o3 == some .s_state_sig_proposal_collected) = false := by simpa using c1
    by_cases c2 : (respStateOf o3 == some .s_state_dkg_master_key_collected) = true
    · -- handed to the signing machine
      have hf : ∀ n, afterDo st2 i3 o3 m n payloadOf = finishOn st2 m n payloadOf (handOver i3 eSignInit n) := by
        intro n
        unfold afterDo firstHandOver secondHandOver finishOn
        simp only [c1', c2, Bool.false_eq_true, ↓reduceIte]
        cases handOver i3 eSignInit n <;> rfl
      rw [hf n1, hf n2]
      exact finishOn_indep st2 m payloadOf n1 n2 _ _ (handOver_indep i3 eSignInit (Or.inr rfl) n1 n2 s1 s2)
        (fun i rs rd h => ⟨_, (signinit_handOver h).2.2.2.1, (signinit_handOver h).2.2.2.2.2⟩)
    · -- no hand-over: `finish` reads the clock only for the restart, which does not depend on it
      have c2' : (respStateOf o3 == some .s_state_dkg_master_key_collected) = false := by simpa using c2
      unfold afterDo firstHandOver secondHandOver
      simp only [c1', c2', Bool.false_eq_true, ↓reduceIte]
      unfold finish
      dsimp only
      rw [restartAfterCollect_indep _ i3 n1 n2]

/-- **The node's clock does not decide anything the outside sees**: outcome, operation and broadcasts of handling a message
are the same at any two clock readings after the zero time. (The stored round IS stamped with the reading when a phase
is entered; that stamp only feeds the deadline tests of later messages.) -/
theorem node_accept_indep (payloadOf : Tasks.Msg → Bytes) (st : NodeSt) (m : NMsg) (n1 n2 : Time) (s1 : SaneClock n1) (s2 : SaneClock n2) :
    seenPM (processMessage st m n1 payloadOf) = seenPM (processMessage st m n2 payloadOf) :=
  processMessage_congr (Rel := fun x y => seenPM x = seenPM y) m (.refl _ st) payloadOf n1 n2
    (hpre := fun inst st => preSteps_indep st inst m n1 n2) (rejected := rfl) (saved := by intros; rfl) (quiet := by intros; rfl)
    (applied := by intros; exact ⟨fun _ => rfl, fun i3 o3 _ => afterDo_indep st i3 o3 m n1 n2 payloadOf s1 s2⟩)

def nodeHandlerT (payloadOf : Tasks.Msg → Bytes) : HandlerT NodeSt NMsg NOp := fun t => nodeHandler payloadOf t

theorem node_reapplySafeT (payloadOf : Tasks.Msg → Bytes) : ReapplySafeT SaneClock (nodeHandlerT payloadOf) :=
  fun t1 t2 s m s' o _ _ => nodeHandler_reapply payloadOf t1 t2 s m s' o

theorem node_acceptIndep (payloadOf : Tasks.Msg → Bytes) : AcceptIndep SaneClock (nodeHandlerT payloadOf) := by
  intro t1 t2 s m h1 h2
  have := node_accept_indep payloadOf s m t1 t2 h1 h2
  unfold seenPM at this
  simp only [Prod.mk.injEq] at this
  obtain ⟨ho, hp, _⟩ := this
  unfold nodeHandlerT nodeHandler
  simp only [ho, hp]
  by_cases hok : (processMessage s m t2 payloadOf).out = .ok
  · simp only [hok, ↓reduceIte, Option.map_some]
  · simp only [hok, ↓reduceIte, Option.map_none]

/-- **C13 for the node model, with a clock.** Every log, every initial store, every crash schedule, every sequence of clock
readings after the zero time: what is on disk is a crash-free run (each message handled once, at the reading of the
start that wrote its round state), possibly with the next message partially applied; and once the log is worked
through it IS such a crash-free run. -/
theorem node_crash_safe_clock (payloadOf : Tasks.Msg → Bytes) (log : List NMsg) (d : Store NodeSt NOp)
    (sched : List (Option Nat × Time)) (hs : ∀ c ∈ sched, SaneClock c.2) :
    ∃ ts, (∀ t ∈ ts, SaneClock t) ∧
      PartialT SaneClock (nodeHandlerT payloadOf) log (cleanT (nodeHandlerT payloadOf) log d ts) (runT (nodeHandlerT payloadOf) log d sched) :=
  crash_safe_clock SaneClock _ (node_reapplySafeT payloadOf) (node_acceptIndep payloadOf) log d sched hs

theorem node_crash_safe_clock_final (payloadOf : Tasks.Msg → Bytes) (log : List NMsg) (d : Store NodeSt NOp)
    (sched : List (Option Nat × Time)) (hs : ∀ c ∈ sched, SaneClock c.2)
    (hdone : log.length ≤ (runT (nodeHandlerT payloadOf) log d sched).offset) :
    ∃ ts, (∀ t ∈ ts, SaneClock t) ∧ runT (nodeHandlerT payloadOf) log d sched = cleanT (nodeHandlerT payloadOf) log d ts :=
  crash_safe_clock_final SaneClock _ (node_reapplySafeT payloadOf) (node_acceptIndep payloadOf) log d sched hs hdone

/-- non-vacuity: a kill after the operation was written, a restart one second later that finishes the message -/
example : (runT (nodeHandlerT (fun _ => [])) [nvMsg] ⟨nvSt, [], 0⟩ [(some 1, 5), (none, 1000000005)]).offset = 1 := by decide +kernel

end node

end Dc4bcVerif.Props.C13Clock
