/-
  C18, node layer — in the model, handling a message never ends in `Outcome.panic`, for every node state
  whose stored rounds satisfy the round invariants, and handling a message keeps that true; hence for
  every state reachable from an empty node by any sequence of messages (`node_never_panics_run`).

  `Outcome.panic` is the model's stand-in for a Go panic in the poller, which is not recovered anywhere.
  With `C18.panic_only_from_callbacks` (the only source is an FSM callback) and `C18Fsm.no_panic_of_inv`
  (no callback panics on a round that satisfies the invariants) what is left is bookkeeping: every
  instance the node applies an event to is either restored from a stored dump, freshly created, or the
  result of the lazy restart of a cancelled signing round — all of which satisfy the invariants — and every
  dump the node stores restores to the persisted step of such an instance.
-/
import Dc4bcVerif.Props.C18
import Dc4bcVerif.Props.C18Fsm
import Dc4bcVerif.Props.C08
import Dc4bcVerif.Lemmas.NodeEvents

namespace Dc4bcVerif.Props.C18Node
open Dc4bcVerif.Gen Dc4bcVerif.Model Dc4bcVerif.Model.Node Dc4bcVerif.Lemmas.NodeLocal Dc4bcVerif.Props Dc4bcVerif.Props.C18Fsm

/-- the two invariants of a round on which no callback panics (`C18Fsm.no_panic_of_inv`): machine, state and payload fit
together (`C05.RoundInv`), and the payload parts the callbacks of the state dereference are there (`C18Fsm.PartsInv`) -/
def Good (i : Instance) : Prop := C05.RoundInv i ∧ PartsInv i

def NodeOK (st : NodeSt) : Prop :=
  ∀ r ds p i, lookupS st.rounds r = some (ds, p) → Instance.restore ds p = some i → Good i

theorem doOrReject_ok (j : Instance) (e : Ev) (a : Arg) (i' : Instance) (o : Out) (h : doOrReject j e a = some (i', o)) :
    (j.doEv e a).2.res = .ok ∧ i' = (j.doEv e a).1 :=
  ⟨(doOrReject_some h).1, (doOrReject_some h).2.1⟩

theorem restart_only_sign (mid : MachineId) (s : St) :
    (mid = .sign ∧ (s = sCOLLECTED ∨ s = sCANCERR ∨ s = sCANCTO)) ∨ lookup (machineOf mid) s eRESTART = none :=
  restart_rows mid s

/-- what the node knows of an instance it is about to store: it is what an accepted `Do` made of a good round. (It need not
be `Good` itself — its machine is not the pool's after a hand-over state — but its dump restores to one: `fromGood_restore`.) -/
def FromGood (i : Instance) : Prop := ∃ g e a o, Good g ∧ doOrReject g e a = some (i, o)

theorem fromGood_restore (i : Instance) (h : FromGood i) (r : Instance) (hr : Instance.restore i.dumpState i.payload = some r) : Good r := by
  obtain ⟨g, e, a, o, hg, hd⟩ := h
  obtain ⟨hok, rfl, _⟩ := doOrReject_some hd
  rw [restore_of_ok g e a hok] at hr
  cases hr
  exact ⟨C05.roundInv_step g (e, a) hg.1, partsInv_step g (e, a) hg.1 hg.2⟩

/-- the restart of a signing round is one more accepted `Do`, and the idle signing machine it leaves is what its own dump
restores to -/
theorem good_restart (inst : Instance) (hg : Good inst) (a : Arg) (i' : Instance) (o : Out)
    (h : doOrReject inst eRESTART a = some (i', o)) : Good i' := by
  obtain ⟨-, -, rfl⟩ := restart_some h
  exact fromGood_restore _ ⟨inst, _, a, o, hg, h⟩ _ (restore_eq sIDLE inst.payload)

theorem good_preSteps (st : NodeSt) (inst : Instance) (m : NMsg) (now : Time) (hg : Good inst) (st2 : NodeSt) (inst2 : Instance)
    (h : preSteps st inst m now = .cont st2 inst2) : Good inst2 :=
  preSteps_induct (fun i i' o hi hd => good_restart i hi _ i' o hd) h hg

theorem good_getInstance (st st1 : NodeSt) (round : String) (inst : Instance) (hok : NodeOK st)
    (h : getInstance st round = some (st1, inst)) : Good inst := by
  rcases (getInstance_some h).2 with ⟨ds, p, hl, hr⟩ | ⟨_, _, rfl⟩
  · exact hok round ds p inst hl hr
  · exact parts_invariant round []

/-- **node_never_panics.** For every node state whose stored rounds satisfy the invariants, every message (any round id,
event name, sender, payload, signature oracle) and every clock reading: handling it ends with ok or a rejection. -/
theorem node_never_panics (st : NodeSt) (hok : NodeOK st) (m : NMsg) (now : Time) (payloadOf : Tasks.Msg → Bytes) :
    (processMessage st m now payloadOf).out ≠ .panic := by
  intro hp
  obtain ⟨inst, inst2, ev, arg, hg, hpre, hdp, _⟩ := C18.panic_only_from_callbacks st m now payloadOf hp
  have hgood := good_preSteps st inst m now (good_getInstance st st m.round inst hok hg) st inst2 hpre
  unfold doPanics at hdp
  exact no_panic_of_inv inst2 hgood.1 hgood.2 ev arg (by simpa using hdp)

theorem top_never_panics (st : NodeSt) (hok : NodeOK st) (m : NMsg) (now : Time) (payloadOf : Tasks.Msg → Bytes) :
    (processMessageTop st m now payloadOf).out ≠ .panic := by
  rw [processMessageTop_eq]
  exact node_never_panics st hok m now payloadOf

theorem fromGood_handOver (i : Instance) (h : FromGood i) (e : Ev) (now : Time) (i' : Instance) (rs : Option St) (rd : Option RespData)
    (hh : handOver i e now = some (i', rs, rd)) : FromGood i' := by
  obtain ⟨r, o, hr, hd, _⟩ := handOver_some hh
  exact ⟨r, e, .default now, o, fromGood_restore i h r hr, hd⟩

/-- how handling a message of `round` changes the stored rounds, `st` before and `st'` after: not at all, or the entry of
`round` is replaced by the dump of a `FromGood` instance. `NodeOK` and `C18ReinitReject.Named` both follow from it. -/
def RoundsOK (st st' : NodeSt) (round : String) : Prop :=
  st'.rounds = st.rounds ∨ ∃ i6, FromGood i6 ∧ st'.rounds = assocSet st.rounds round (i6.dumpState, i6.payload)

theorem saveSignatures_rounds (st st' : NodeSt) (l : List RSig) (h : saveSignatures st l = some st') : st'.rounds = st.rounds := by
  obtain ⟨s, rfl⟩ := saveSignatures_some h
  rfl

theorem processMessage_roundsOK (st : NodeSt) (hok : NodeOK st) (m : NMsg) (now : Time) (payloadOf : Tasks.Msg → Bytes) :
    RoundsOK st (processMessage st m now payloadOf).st m.round := by
  refine processMessage_cases (P := fun r => RoundsOK st r.st m.round) st m now payloadOf (rejected := Or.inl rfl)
    (saved := fun _ l st2 _ _ _ hsv => Or.inl (saveSignatures_rounds _ _ _ hsv)) (quiet := fun _ _ _ _ => Or.inl rfl) (applied := ?_)
  intro inst inst2 ev ha _ _ hpre _ _ _
  refine ⟨fun _ => Or.inl rfl, fun i3 o3 hd => ?_⟩
  have h3 : FromGood i3 := ⟨inst2, ev, _, o3, good_preSteps st inst m now (good_getInstance st st m.round inst hok ha.loaded) st inst2 hpre, hd⟩
  refine afterDo_cases (P := fun r => RoundsOK st r.st m.round) st i3 o3 m now payloadOf (rejected := fun _ => Or.inl rfl) (done := ?_)
  intro i4 rs4 rd4 i5 rs5 rd5 sent i6 st3 h1 h2 _ hr hpl
  -- the instance that is stored came out of a `Do` on a good one: through the hand-overs and the restart
  have h4 : FromGood i4 := by
    rcases firstHandOver_some h1 with ⟨_, h⟩ | ⟨_, rfl, _⟩
    · exact fromGood_handOver i3 h3 _ now i4 rs4 rd4 h
    · exact h3
  have h5 : FromGood i5 := by
    rcases secondHandOver_some h2 with ⟨_, h⟩ | ⟨_, rfl, _⟩
    · exact fromGood_handOver i4 h4 _ now i5 rs5 rd5 h
    · exact h4
  have h6 : FromGood i6 := by
    rcases restartAfterCollect_some hr with ⟨_, r, o, hres, hd⟩ | ⟨_, rfl⟩
    · exact ⟨r, _, _, o, fromGood_restore i5 h5 r hres, hd⟩
    · exact h5
  exact Or.inr ⟨i6, h6, by simp only [saveFSM]; rw [placeholders_rounds st st3 m payloadOf hpl]⟩

theorem top_roundsOK (st : NodeSt) (hok : NodeOK st) (m : NMsg) (now : Time) (payloadOf : Tasks.Msg → Bytes) :
    RoundsOK st (processMessageTop st m now payloadOf).st m.round := by
  rw [processMessageTop_eq]
  exact processMessage_roundsOK st hok m now payloadOf

theorem nodeOK_of_roundsOK {st st' : NodeSt} {R : String} (hok : NodeOK st) (h : RoundsOK st st' R) : NodeOK st' := by
  intro r ds p i hl hr
  rcases h with h | ⟨i6, h6, h⟩
  · rw [h] at hl
    exact hok r ds p i hl hr
  · rw [h] at hl
    rw [lookupS_assocSet] at hl
    split at hl
    · cases hl; exact fromGood_restore i6 h6 i hr
    · exact hok r ds p i hl hr

/-- **nodeOK_step.** Handling any message keeps every stored round good. -/
theorem nodeOK_step (st : NodeSt) (hok : NodeOK st) (m : NMsg) (now : Time) (payloadOf : Tasks.Msg → Bytes) :
    NodeOK (processMessageTop st m now payloadOf).st :=
  nodeOK_of_roundsOK hok (top_roundsOK st hok m now payloadOf)

theorem nodeOK_empty (self : String) (key : Bytes) (skip : Bool) : NodeOK { self := self, selfKey := key, skipVerify := skip } := by
  intro r ds p i hl _
  simp [lookupS] at hl

/-- **node_never_panics_run.** From an empty state database, after ANY sequence of messages (genuine, forged, junk, duplicated,
of any number of rounds) and clock readings, handling any further message ends with ok or a rejection — in the model, whose
`panic` outcome stands for the Go panics of the callbacks. -/
theorem node_never_panics_run (self : String) (key : Bytes) (skip : Bool) (payloadOf : Tasks.Msg → Bytes) (log : List (NMsg × Time))
    (m : NMsg) (now : Time) :
    (processMessageTop (C08.consume payloadOf { self := self, selfKey := key, skipVerify := skip } log) m now payloadOf).out ≠ .panic :=
  top_never_panics _ (List.foldlRecOn (motive := NodeOK) log _ (nodeOK_empty self key skip)
    fun st h mt _ => nodeOK_step st h mt.1 mt.2 payloadOf) m now payloadOf

end Dc4bcVerif.Props.C18Node
