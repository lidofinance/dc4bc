/-
  C12 for the CONCRETE key-generation handlers of the airgapped machine (`Model/AirDkg.lean`, tied to the real machine by
  the `airdkg` stream) — `Props/C12.lean` proves the restart theorems for an abstract deterministic handler; here the
  handler is the model of the real one, with its volatile instances and its durable key rings.

  * `exec_effect`: a handler leaves the machine alone or files an instance under its round, with or without a key ring; what
    it files and what it answers is read off the own key and the instances. Hence `exec_split`: what a handler does to the
    instances, and what it answers, does not depend on the key rings; what it does to the key rings is a list of writes (none
    or one) that does not depend on them either.
  * `run_split`, and in the form the files downstream use it, `run_congr` / `run_again`: two machines with the same key and
    instances (`vol m' = vol m`, i.e. `vol_eq_vol_iff`) run alike - the same instances, answers and key-ring writes, each onto its
    own key rings; if the second already holds the key rings the first ends with, it ends as the very same machine.
  * `replay_is_identity`: stop the machine after ANY sequence of operations (the instances are gone, the key rings stay),
    hand it the same operations again (`ReplayOperationsLog`): the machine is literally the one that was stopped — same
    instances, same key rings (so the same private share) — and (`replay_results`) every replayed operation is answered
    exactly as it was the first time (the same commitments, deals, responses, master key).
  * `carries_on`: hence whatever is handed to it afterwards is answered as by a machine that never stopped.
  * `fatal_is_noop`: an operation refused with a fatal error (no result file; not logged) leaves the machine as it was, so
    the log (which lacks it) rebuilds the same machine as the history (which has it).
  The orders of Go's map ranges are part of an operation here: the replay is assumed to take the same ones. For the deals
  step the order does not matter (Props/C12AirOrder.lean `responses_order_irrelevant`: two ranges that are permutations of
  each other are both refused or both answered, with the same machine afterwards; Props/C11Air.lean
  `unacceptable_deal_refused` holds in every order); after a REFUSED deals step the real state does depend on it (which deals
  were examined before the refusal) — observable only by operations on a round every honest node has already cancelled.
-/
import Dc4bcVerif.Model.AirReinit
import Dc4bcVerif.Lemmas.AirDkgSteps
import Dc4bcVerif.Lemmas.Idem

-- every statement carries all instance binders of the `variable` line, whether it uses them or not
set_option linter.unusedSectionVars false

namespace Dc4bcVerif.Props.C12Air
open Dc4bcVerif.Model.Shamir Dc4bcVerif.Model.AirDkg Dc4bcVerif.Lemmas.AirDkgSteps

variable {F : Type} [Add F] [Mul F] [Sub F] [Div F] [Zero F] [One F] [DecidableEq F] [NatCast F]
variable {K : Type} [DecidableEq K]

/-- the machine without its key rings: its key and its volatile instances -/
def vol (m : Machine F K) : Machine F K := { m with rings := [] }

theorem vol_eq_vol_iff {m m' : Machine F K} : vol m' = vol m ↔ m'.me = m.me ∧ m'.insts = m.insts := by
  simp [vol]

/-- the key-ring writes `w`, in order, applied to the store `l` -/
def puts (w : List (String × Keyring F)) (l : List (String × Keyring F)) : List (String × Keyring F) :=
  w.foldl (fun l e => put e.1 e.2 l) l

/-- What a handler files (`w`, see `AirDkgSteps.file`) and what it answers do not depend on the key rings. -/
theorem exec_effect (me : K) (insts : List (String × Inst F K)) (op : Op F K) (round : String) (h : op.round? = some round) :
    ∃ w res, ∀ rings, exec ⟨me, insts, rings⟩ op = (file round ⟨me, insts, rings⟩ w, res) := by
  cases op with
  | restart => cases h
  | commits r e p =>
    cases h
    -- what the machine without key rings files and answers, every other one does (`commitsOp_rings`)
    have hr (rings) := commitsOp_rings ⟨me, insts, []⟩ rings round e p
    obtain (h | h) | ⟨inst, h, _⟩ := commitsOp_filed ⟨me, insts, []⟩ round e p
    · exact ⟨none, _, fun rings => (hr rings).trans (by rw [h]; rfl)⟩
    · exact ⟨none, _, fun rings => (hr rings).trans (by rw [h]; rfl)⟩
    · exact ⟨some (inst, none), _, fun rings => (hr rings).trans (by rw [h]; rfl)⟩
  | deals r e => cases h; simp only [exec, dealsOp_eq]; exact onRound_effect ..
  | responses r e o => cases h; simp only [exec, responsesOp_eq]; exact onRound_effect ..
  | masterKey r e o => cases h; simp only [exec, masterKeyOp_eq]; exact onRound_effect ..

theorem exec_eq_file (m : Machine F K) (op : Op F K) (round : String) (h : op.round? = some round) :
    ∃ w res, exec m op = (file round m w, res) := by
  obtain ⟨w, res, hw⟩ := exec_effect m.me m.insts op round h
  exact ⟨w, res, hw m.rings⟩

/-- The store a step leaves when it starts from none IS the list of its writes (`exec_effect`: none or one): hence
`puts (exec (vol m) op).1.rings m.rings`. -/
theorem exec_split (m : Machine F K) (op : Op F K) :
    (exec m op).1 = { me := m.me, insts := (exec (vol m) op).1.insts, rings := puts (exec (vol m) op).1.rings m.rings } ∧
    (exec m op).2 = (exec (vol m) op).2 ∧ (exec (vol m) op).1.me = m.me := by
  obtain ⟨me, insts, rings⟩ := m
  cases hr : op.round? with
  | none => cases op <;> first | exact ⟨rfl, rfl, rfl⟩ | cases hr
  | some round =>
    obtain ⟨w, res, hw⟩ := exec_effect me insts op round hr
    simp only [vol]
    rw [hw rings, hw []]
    rcases w with _ | ⟨i, _ | kr⟩ <;> exact ⟨rfl, rfl, rfl⟩

/-- a step with the key rings thrown away before and after it -/
def step0 (m : Machine F K) (op : Op F K) : Machine F K := vol (exec (vol m) op).1

/-- the key rings a run writes, in order; they do not depend on the store they are written to -/
def writes (m : Machine F K) : List (Op F K) → List (String × Keyring F)
  | [] => []
  | op :: rest => (exec (vol m) op).1.rings ++ writes (step0 m op) rest

/-- a run of `step0`: what a run does to the key and the instances -/
def run0 (m : Machine F K) (ops : List (Op F K)) : Machine F K := ops.foldl step0 (vol m)

/-- the answers of a run -/
def results (m : Machine F K) : List (Op F K) → List (Res F)
  | [] => []
  | op :: rest => (exec m op).2 :: results (exec m op).1 rest

theorem vol_vol (m : Machine F K) : vol (vol m) = vol m := rfl

theorem puts_append (a b : List (String × Keyring F)) (l : List (String × Keyring F)) : puts (a ++ b) l = puts b (puts a l) := by
  unfold puts; rw [List.foldl_append]

theorem vol_exec (m : Machine F K) (op : Op F K) : vol (exec m op).1 = step0 m op := by
  obtain ⟨h1, _, h3⟩ := exec_split m op
  exact vol_eq_vol_iff.mpr (by rw [h1]; exact ⟨h3.symm, rfl⟩)

theorem exec_congr {m m' : Machine F K} (h : vol m' = vol m) (op : Op F K) :
    (exec m' op).2 = (exec m op).2 ∧ vol (exec m' op).1 = vol (exec m op).1 := by
  rw [(exec_split m' op).2.1, (exec_split m op).2.1, vol_exec, vol_exec, step0, step0, h]
  exact ⟨rfl, rfl⟩

theorem writes_vol (m : Machine F K) (ops : List (Op F K)) : writes m ops = writes (vol m) ops := by
  cases ops with
  | nil => rfl
  | cons o r => rfl

theorem run_split (ops : List (Op F K)) : ∀ (m : Machine F K),
    run m ops = { me := m.me, insts := (run0 m ops).insts, rings := puts (writes m ops) m.rings } ∧ (run0 m ops).me = m.me ∧
    results m ops = results (vol m) ops := by
  induction ops with
  | nil => intro m; exact ⟨rfl, rfl, rfl⟩
  | cons op rest ih =>
    intro m
    obtain ⟨h1, h2, _⟩ := exec_split m op
    obtain ⟨i1, i2, i3⟩ := ih (exec m op).1
    obtain ⟨_, _, j3⟩ := ih (exec (vol m) op).1
    -- what the rest of the run sees of the machine after the step is `step0 m op`
    have hv := vol_exec m op
    have hr0 : run0 (exec m op).1 rest = run0 m (op :: rest) := congrArg (List.foldl step0 · rest) hv
    rw [writes_vol, hv] at i1
    refine ⟨?_, by rw [← hr0, i2, h1], ?_⟩
    · show run (exec m op).1 rest = _
      rw [i1, hr0, h1]
      simp only [writes, puts_append]
    · show (exec m op).2 :: results (exec m op).1 rest = (exec (vol m) op).2 :: results (exec (vol m) op).1 rest
      rw [h2, i3, j3, hv]
      rfl

theorem put_eq_touch {V : Type} (k : String) (v : V) (l : List (String × V)) :
    put k v l = Dc4bcVerif.Idem.touch Prod.fst l k (fun _ => (k, v)) := by
  fun_induction put k v l <;> simp_all [Dc4bcVerif.Idem.touch]

theorem puts_eq_F (w l : List (String × Keyring F)) :
    puts w l = Dc4bcVerif.Idem.F Prod.fst Prod.fst (fun _ x => x) l w :=
  congrArg (List.foldl · l w) (funext fun l => funext fun e => put_eq_touch e.1 e.2 l)

theorem puts_idem (w l : List (String × Keyring F)) : puts w (puts w l) = puts w l := by
  rw [puts_eq_F, puts_eq_F]
  exact Dc4bcVerif.Idem.F_idem_replace Prod.fst l w

def fresh (me : K) : Machine F K := { me := me }

theorem run_me (ops : List (Op F K)) (m : Machine F K) : (run m ops).me = m.me := by
  rw [(run_split ops m).1]

theorem run_rings (ops : List (Op F K)) (m : Machine F K) : (run m ops).rings = puts (writes m ops) m.rings := by
  rw [(run_split ops m).1]

theorem run_append (a b : List (Op F K)) (m : Machine F K) : run m (a ++ b) = run (run m a) b := by
  unfold run; rw [List.foldl_append]

theorem run_congr {m m' : Machine F K} (h : vol m' = vol m) (ops : List (Op F K)) :
    run m' ops = { run m ops with rings := puts (writes m ops) m'.rings } ∧ results m' ops = results m ops := by
  obtain ⟨a1, _, a3⟩ := run_split ops m
  obtain ⟨b1, _, b3⟩ := run_split ops m'
  have hme : m'.me = m.me := (vol_eq_vol_iff.mp h).1
  have hr0 : run0 m' ops = run0 m ops := by unfold run0; rw [h]
  have hw : writes m' ops = writes m ops := by rw [writes_vol, h, ← writes_vol]
  refine ⟨?_, by rw [b3, h, ← a3]⟩
  rw [b1, hr0, hw, hme, a1]

theorem vol_run_congr {m m' : Machine F K} (h : vol m' = vol m) (ops : List (Op F K)) : vol (run m' ops) = vol (run m ops) := by
  rw [(run_congr h ops).1]; rfl

theorem vol_stop_run (m : Machine F K) (hstarted : m.insts = []) (ops : List (Op F K)) : vol (stop (run m ops)) = vol m :=
  vol_eq_vol_iff.mpr ⟨run_me ops m, hstarted.symm⟩

/-- The instances are rebuilt, every key ring is written a second time (`puts_idem`). -/
theorem run_again {m m' : Machine F K} (ops : List (Op F K)) (hv : vol m' = vol m) (hr : m'.rings = (run m ops).rings) :
    run m' ops = run m ops := by
  rw [(run_congr hv ops).1, hr, run_rings, puts_idem, ← run_rings]

theorem replay_is_identity (me : K) (ops : List (Op F K)) :
    run (stop (run (fresh me : Machine F K) ops)) ops = run (fresh me) ops :=
  run_again ops (vol_stop_run _ rfl ops) rfl

theorem replay_results (me : K) (ops : List (Op F K)) :
    results (stop (run (fresh me : Machine F K) ops)) ops = results (fresh me) ops :=
  (run_congr (vol_stop_run _ rfl ops) ops).2

theorem carries_on (me : K) (ops later : List (Op F K)) :
    results (run (stop (run (fresh me : Machine F K) ops)) ops) later = results (run (fresh me) ops) later ∧
    run (run (stop (run (fresh me : Machine F K) ops)) ops) later = run (run (fresh me) ops) later := by
  rw [replay_is_identity]; exact ⟨rfl, rfl⟩

theorem carries_on_twice (me : K) (ops : List (Op F K)) :
    run (stop (run (stop (run (fresh me : Machine F K) ops)) ops)) ops = run (fresh me) ops := by
  rw [replay_is_identity, replay_is_identity]

theorem commitsOp_cases (m : Machine F K) (r : String) (e : List (KeyEntry K)) (p : List F) :
    commitsOp m r e p = (m, Res.err) ∨ commitsOp m r e p = (m, Res.badOracle) ∨
    ∃ inst idx, commitsOp m r e p = ({ m with insts := put r inst m.insts }, Res.commits idx p) := by
  obtain (h | h) | ⟨inst, h, _⟩ := commitsOp_filed m r e p
  · exact .inl h
  · exact .inr (.inl h)
  · exact .inr (.inr ⟨inst, _, h⟩)

/-- A handler error on a round the machine has no instance of (a fatal error: no result file, nothing
logged) leaves the machine exactly as it was. -/
theorem fatal_is_noop (m : Machine F K) (op : Op F K) (round : String)
    (hround : match op with | .commits r _ _ => r = round | .deals r _ => r = round | .responses r _ _ => r = round | .masterKey r _ _ => r = round | .restart => False)
    (h : outcome (exec m op).1 round (exec m op).2 = Outcome.fatal) : (exec m op).1 = m := by
  have hr : op.round? = some round := by
    cases op <;> first | exact congrArg some hround | exact hround.elim
  obtain ⟨w, res, hw⟩ := exec_eq_file m op round hr
  rw [hw] at h ⊢
  rcases w with _ | ⟨i, kr⟩
  · rfl
  · -- an instance was filed under the round: whatever the answer, the outcome is not fatal
    unfold outcome at h
    rw [lookup_file_insts] at h
    cases res <;> cases h

/-- a signing request changes nothing on the machine (the hypothesis `UnloggedPure` of `Props/C12.lean`, for the model of
the real handler) -/
theorem sign_changes_nothing (m : Machine F K) (round : String) (payloadOk : Bool) (msgs : Option Nat) :
    (signOp m round payloadOk msgs).1 = m :=
  signOp_fst m round payloadOk msgs

theorem signs_alike_after_replay (me : K) (ops : List (Op F K)) (round : String) (payloadOk : Bool) (msgs : Option Nat) :
    signOp (run (stop (run (fresh me : Machine F K) ops)) ops) round payloadOk msgs = signOp (run (fresh me) ops) round payloadOk msgs := by
  rw [replay_is_identity]

/-- a signing request with something to sign is answered only by a machine that holds both the round's instance (volatile:
gone after a stop until the log is replayed) and its key ring -/
theorem sign_needs_instance_and_ring (m : Machine F K) (round : String) (k pid : Nat) (sh : Option F)
    (h : (signOp m round true (some (k + 1))).2 = Res.partials pid sh (k + 1)) :
    (∃ i, lookup round m.insts = some i ∧ i.pid = pid) ∧ (∃ kr, lookup round m.rings = some kr ∧ sh = some kr.share) := by
  unfold signOp at h
  simp only [Bool.not_true, Bool.false_eq_true, ↓reduceIte] at h
  cases hi : lookup round m.insts with
  | none => simp [hi] at h
  | some i =>
    simp only [hi] at h
    cases hr : lookup round m.rings with
    | none => simp [hr] at h
    | some kr =>
      simp only [hr, Res.partials.injEq] at h
      exact ⟨⟨i, rfl, h.1⟩, ⟨kr, rfl, h.2.1.symm⟩⟩

/-- right after a stop, before the replay, nothing can be signed (seed C20i: a machine whose instance is never rebuilt) -/
theorem stopped_machine_cannot_sign (m : Machine F K) (round : String) (k : Nat) :
    (signOp (stop m) round true (some (k + 1))).2 = Res.err := by
  unfold signOp stop
  simp [lookup]

/-- the hypotheses are met: the two-party round of `Model/AirDkg.lean`, stopped after its deals step and replayed -/
example : run (stop (run (fresh 1 : Machine Int Nat) exOps)) exOps = run (fresh 1) exOps := replay_is_identity 1 exOps
example : (run (fresh 1 : Machine Int Nat) exOps).insts ≠ [] := by decide

end Dc4bcVerif.Props.C12Air
