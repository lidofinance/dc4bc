/-
  C09 — no state change without a valid signature by the claimed sender's registered key.

  Model: `Node.processMessage` (M-NODE). ed25519 verification is the oracle field
  `m.validKeys` (the set of keys under which (Data, Signature) verifies), universally quantified
  here: the theorems hold whatever that set is.
-/
import Dc4bcVerif.Lemmas.NodeLocal

namespace Dc4bcVerif.Props.C09
open Dc4bcVerif.Gen Dc4bcVerif.Model Dc4bcVerif.Model.Node Dc4bcVerif.Lemmas.NodeLocal

/-- what "the signature verifies under the key registered in the round for the named sender" means -/
def signedByRegisteredSender (inst : Instance) (m : NMsg) : Prop :=
  ∃ key, lookupS inst.payload.pubKeys m.sender = some key ∧ key.length = 32 ∧ key ∈ m.validKeys ∧ m.sender ≠ ""

/-- `verifyMessage` succeeds exactly when verification is switched off by the operator / during
re-initialisation, or the signature verifies under the sender's registered key -/
theorem verify_ok_iff (st : NodeSt) (inst : Instance) (m : NMsg) :
    verifyMessage st inst m = .ok ↔ (st.skipVerify = true ∨ signedByRegisteredSender inst m) := by
  rcases verifyMessage_cases st inst m with ⟨hv, h⟩ | ⟨hv, h⟩ <;> rw [hv]
  · exact ⟨fun _ => h, fun _ => rfl⟩
  · exact ⟨fun hr => Outcome.noConfusion hr, fun hs => absurd hs h⟩

theorem verify_never_panics (st : NodeSt) (inst : Instance) (m : NMsg) : verifyMessage st inst m ≠ .panic :=
  verifyMessage_ne_panic st inst m

/-- **unsigned_noop.** Apart from the opening proposal, a message whose signature does not verify
under the key registered for its named sender (altered payload, altered / missing signature,
unknown sender, any other key) is rejected, nothing is posted, no operation is created, and the node
state is literally the value it was: every round (no entry is created for an unknown round id either —
fix "leave no trace of a rejected message"), the operation pool, the tombstones and the signature store. -/
theorem unsigned_noop (st : NodeSt) (m : NMsg) (now : Time) (payloadOf : Tasks.Msg → Bytes)
    (hev : m.event ≠ "event_sig_proposal_init") (hskip : st.skipVerify = false)
    (hbad : ∀ st1 inst, getInstance st m.round = some (st1, inst) → ¬ signedByRegisteredSender inst m) :
    let r := processMessage st m now payloadOf
    r.out = .reject ∧ r.op = none ∧ r.sent = [] ∧ r.st = st := by
  have hna : ∀ inst, ¬ Admitted st m inst := by
    rintro inst ⟨hg, hi | hv⟩
    · exact hev (beq_iff_eq.mp hi)
    · rcases (verify_ok_iff st inst m).mp hv with h | h
      · rw [hskip] at h; cases h
      · exact hbad st inst hg h
  exact processMessage_cases (P := fun r => r.out = .reject ∧ r.op = none ∧ r.sent = [] ∧ r.st = st) st m now payloadOf
    (rejected := ⟨rfl, rfl, rfl, rfl⟩) (saved := fun i _ _ ha => absurd ha (hna i)) (quiet := fun i ha => absurd ha (hna i))
    (applied := fun i _ _ ha => absurd ha (hna i))

/-- **guard_in_source.** In the message handler of /repo (regenerated on every run): the statement that calls `verifyMessage`
comes right after loading the round (`GetFSMInstance` and its error check are the only calls before it), and the only
messages it lets through unverified are those whose event is the opening proposal — the model's `processMessage` has
exactly this shape. (The re-initialisation message is dispatched before the handler, in `ProcessMessage`.) -/
theorem guard_in_source :
    Gen.NodeGlue.verifyGuard = (2, "fsm.Event(message.Event) != event_sig_proposal_init", ["s.fsmService.GetFSMInstance", "fmt.Errorf"]) :=
  rfl

/-- non-vacuity: a registered sender, a signature that verifies under somebody else's key only -/
example : ¬ signedByRegisteredSender
    { machine := .sig, state := .s_state_sig_proposal_await_participants_confirmations, dumpState := none,
      payload := { dkgId := "r", pubKeys := [("alice", List.replicate 32 1), ("bobby", List.replicate 32 2)] } }
    { round := "r", event := "event_sig_proposal_confirm_by_participant", sender := "alice", recipient := "",
      arg := none, validKeys := [List.replicate 32 2] } := by
  rintro ⟨k, hk, _, hv, _⟩
  simp [lookupS] at hk
  subst hk
  simp at hv

end Dc4bcVerif.Props.C09
