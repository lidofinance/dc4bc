/-
  C20 — re-initialising from a log dump reproduces the original key material and state.

  * the confirmation hash: `order_matches_source` (the model hashes the fields the source hashes, in its order;
    regenerated on every run), `edit_*` (EVERY single-field edit of a reinit file — header, any field of any
    participant, any field of any message, whichever round the message belongs to — changes the hashed byte string),
    `not_injective_across_fields` (the concatenation has no separators: two files that differ in TWO adjacent fields
    can hash alike; outside the property's single-field quantifier, recorded as an observation);
  * same state: a node is a function of the messages it is fed (C08 `replay_eq_live`, `round_state_function_of_round_log`);
    the re-initialisation feeds the messages of the dump that carry the round's identifier through the same handler
    with the same verification (fix "verify replayed messages during re-initialisation"), so it reaches the state
    the original nodes reached on that sub-log;
  * same shares: the airgapped machine replays the same operations from the same mnemonic (C12 `same_seed_same_machine`).
  Not proved: SHA-1 collision resistance, injectivity of `%d` (hypothesis `hdec`), the glue of `reinitDKG` itself
  (round guard, new communication keys) and `handleReinitDKG`, which are exercised on real nodes and machines by reinitdiff.
-/
import Dc4bcVerif.Model.ReinitHash
import Dc4bcVerif.Gen.NodeGlue

namespace Dc4bcVerif.Props.C20
open Dc4bcVerif.Model Dc4bcVerif.Model.ReinitHash

theorem order_matches_source : Gen.NodeGlue.reinitHashOrder = expectedOrder := rfl

variable (dec : Int → Bytes) (hdec : ∀ a b, dec a = dec b → a = b)

/-! Every `edit_*`, `encP_*`, `encM_*` below is the same argument: the two byte strings share what
stands before the edited field and what stands after it, and appending on either side is injective
(`List.append_right_inj`, `List.append_left_inj`); what is left is the edited field itself. -/

theorem edit_dkg_id (re : ReDKG) (x : Bytes) (h : x ≠ re.dkgId) : hashInput dec { re with dkgId := x } ≠ hashInput dec re := by
  simpa only [hashInput, ne_eq, List.append_left_inj] using h

include hdec in
theorem edit_threshold (re : ReDKG) (x : Int) (h : x ≠ re.threshold) : hashInput dec { re with threshold := x } ≠ hashInput dec re := by
  simp only [hashInput, ne_eq, List.append_left_inj, List.append_right_inj]
  exact fun he => h (hdec _ _ he)

/-- a participant whose encoding changes changes the hash input, wherever it stands in the list -/
theorem edit_participant (re : ReDKG) (l1 l2 : List Part) (p p' : Part) (hparts : re.parts = l1 ++ [p] ++ l2) (h : encP p' ≠ encP p) :
    hashInput dec { re with parts := l1 ++ [p'] ++ l2 } ≠ hashInput dec re := by
  simpa only [hashInput, hparts, List.flatMap_append, List.flatMap_singleton, ne_eq, List.append_left_inj,
    List.append_right_inj] using h

theorem encP_new_key (p : Part) (x : Bytes) (h : x ≠ p.newKey) : encP { p with newKey := x } ≠ encP p := by
  simpa only [encP, ne_eq, List.append_left_inj] using h
theorem encP_old_key (p : Part) (x : Bytes) (h : x ≠ p.oldKey) : encP { p with oldKey := x } ≠ encP p := by
  simpa only [encP, ne_eq, List.append_left_inj, List.append_right_inj] using h
theorem encP_dkg_key (p : Part) (x : Bytes) (h : x ≠ p.dkgKey) : encP { p with dkgKey := x } ≠ encP p := by
  simpa only [encP, ne_eq, List.append_left_inj, List.append_right_inj] using h
theorem encP_name (p : Part) (x : Bytes) (h : x ≠ p.name) : encP { p with name := x } ≠ encP p := by
  simpa only [encP, ne_eq, List.append_right_inj] using h

/-- a message whose encoding changes changes the hash input, wherever it stands and whatever round it names -/
theorem edit_message (re : ReDKG) (l1 l2 : List RMsg) (m m' : RMsg) (hmsgs : re.msgs = l1 ++ [m] ++ l2) (h : encM dec m' ≠ encM dec m) :
    hashInput dec { re with msgs := l1 ++ [m'] ++ l2 } ≠ hashInput dec re := by
  simpa only [hashInput, hmsgs, List.flatMap_append, List.flatMap_singleton, ne_eq, List.append_left_inj,
    List.append_right_inj] using h

theorem encM_data (m : RMsg) (x : Bytes) (h : x ≠ m.data) : encM dec { m with data := x } ≠ encM dec m := by
  simpa only [encM, ne_eq, List.append_left_inj] using h
theorem encM_sig (m : RMsg) (x : Bytes) (h : x ≠ m.sig) : encM dec { m with sig := x } ≠ encM dec m := by
  simpa only [encM, ne_eq, List.append_left_inj, List.append_right_inj] using h
theorem encM_recipient (m : RMsg) (x : Bytes) (h : x ≠ m.recipient) : encM dec { m with recipient := x } ≠ encM dec m := by
  simpa only [encM, ne_eq, List.append_left_inj, List.append_right_inj] using h
theorem encM_event (m : RMsg) (x : Bytes) (h : x ≠ m.event) : encM dec { m with event := x } ≠ encM dec m := by
  simpa only [encM, ne_eq, List.append_left_inj, List.append_right_inj] using h
theorem encM_sender (m : RMsg) (x : Bytes) (h : x ≠ m.sender) : encM dec { m with sender := x } ≠ encM dec m := by
  simpa only [encM, ne_eq, List.append_left_inj, List.append_right_inj] using h
theorem encM_round (m : RMsg) (x : Bytes) (h : x ≠ m.round) : encM dec { m with round := x } ≠ encM dec m := by
  simpa only [encM, ne_eq, List.append_left_inj, List.append_right_inj] using h
include hdec in
theorem encM_offset (m : RMsg) (x : Int) (h : x ≠ m.offset) : encM dec { m with offset := x } ≠ encM dec m := by
  simp only [encM, ne_eq, List.append_right_inj]
  exact fun he => h (hdec _ _ he)

/-- **not_injective_across_fields** (observation, not a violation of the single-field clause): without separators a
byte can move from a message's `Data` to its `Signature` without changing the hashed string. -/
theorem not_injective_across_fields :
    ∃ a b : ReDKG, a ≠ b ∧ hashInput dec a = hashInput dec b := by
  refine ⟨⟨[], 1, [], [⟨[1, 2], [3], [], [], [], [], 0⟩]⟩, ⟨[], 1, [], [⟨[1], [2, 3], [], [], [], [], 0⟩]⟩, by decide, ?_⟩
  simp [hashInput, encM]

/-- non-vacuity: an edit of the signature of the second message of a two-message file (with a toy `%d`) -/
example : hashInput (fun n => [UInt8.ofNat n.toNat]) ⟨[9], 2, [⟨[1], [2], [3], [4]⟩], [⟨[5], [6], [], [7], [8], [9], 0⟩, ⟨[5], [6, 6], [], [7], [8], [1], 1⟩]⟩ ≠
          hashInput (fun n => [UInt8.ofNat n.toNat]) ⟨[9], 2, [⟨[1], [2], [3], [4]⟩], [⟨[5], [6], [], [7], [8], [9], 0⟩, ⟨[5], [6], [], [7], [8], [1], 1⟩]⟩ := by decide

end Dc4bcVerif.Props.C20
