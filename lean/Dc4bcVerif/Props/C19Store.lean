/-
  C19, store level — what the node's round store (`fsmservice`: one JSON map `round id ↦ dump` under
  `<topic>_fsm_state`) gives back after `SaveFSM`.

  Model: `Node.saveFSM` / `Node.getInstance` (= `GetFSMInstance(id, true)`), `lookupS` on `rounds`
  (= `GetFSMDump`, `IsExist`, one row of `GetFSMList`).  Tie: `fsmdiff` sends every dump it keeps through
  the real `FSMService` on a LevelDB state and reads it back in the four ways (`C19 store_roundtrip`).

  The point of the property at this level: *every* saved round stays loadable — there is no state name,
  cancelled and finished ones included, for which the store forgets or refuses the round.
-/
import Dc4bcVerif.Props.C19
import Dc4bcVerif.Lemmas.NodeSteps

namespace Dc4bcVerif.Props.C19Store
open Dc4bcVerif.Gen Dc4bcVerif.Model Dc4bcVerif.Model.Node

/-- `GetFSMDump` / `IsExist` / the row of `GetFSMList` after `SaveFSM`: the saved dump, whatever its state -/
theorem saved_is_listed (st : NodeSt) (round : String) (d : DumpV) :
    lookupS (saveFSM st round d).rounds round = some d :=
  lookupS_assocSet_eq _ _ _

/-- … and no other round's row changes -/
theorem others_untouched (st : NodeSt) (round r : String) (d : DumpV) (h : r ≠ round) :
    lookupS (saveFSM st round d).rounds r = lookupS st.rounds r :=
  lookupS_assocSet_ne _ _ _ _ h

/-- `GetFSMInstance` after `SaveFSM` is `FromDump` of exactly what was saved -/
theorem load_after_save (st : NodeSt) (round : String) (d : DumpV) :
    getInstance (saveFSM st round d) round =
      (Instance.restore d.1 d.2).map (fun i => (saveFSM st round d, i)) :=
  getInstance_saveFSM st round d

/-- every dump whose state field is a state name — running, cancelled or finished — loads after it was saved:
the store never answers "no such round" and never hands out a fresh idle round in its place. -/
theorem saved_round_loads (st : NodeSt) (round : String) (s : St) (p : Payload) :
    ∃ i, getInstance (saveFSM st round (some s, p)) round = some (saveFSM st round (some s, p), i) ∧
      i.state = s ∧ i.payload = p ∧ i.dumpState = some s := by
  rw [load_after_save, restore_eq]
  exact ⟨_, rfl, rfl, rfl, rfl⟩

/-- the node's step, end to end: a successful `Do` on a loaded round, saved and loaded again, is the round the
in-memory instance has become (state, payload) — so the next message meets the same round either way -/
theorem step_save_load (st : NodeSt) (round : String) (i : Instance) (e : Ev) (a : Arg)
    (hok : (i.doEv e a).2.res = .ok) :
    ∃ r, getInstance (saveFSM st round ((i.doEv e a).1.dumpState, (i.doEv e a).1.payload)) round
        = some (saveFSM st round ((i.doEv e a).1.dumpState, (i.doEv e a).1.payload), r) ∧
      r.state = (i.doEv e a).1.state ∧ r.payload = (i.doEv e a).1.payload := by
  have hds := Dc4bcVerif.Props.C19.ok_dump_state i e a hok
  rw [hds]
  obtain ⟨r, h1, h2, h3, _⟩ := saved_round_loads st round (i.doEv e a).1.state (i.doEv e a).1.payload
  exact ⟨r, h1, h2, h3⟩

/-- non-vacuity: a round cancelled by a decline, saved into a store that already holds another round -/
example :
    (getInstance (saveFSM { self := "n", rounds := [("other", (some .s_stage_signing_idle, { dkgId := "other" }))] } "r"
      (some .s_state_sig_proposal_canceled_by_participant, { dkgId := "r" })) "r").isSome = true := by
  decide

end Dc4bcVerif.Props.C19Store
