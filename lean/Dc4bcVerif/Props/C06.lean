/-
  C06 — reconstruction starts at exactly `t` distinct contributions to the current batch.

  All statements are about the model of the signing machine (generated table + hand-written
  callbacks, tied to the code by `fsmdiff`) and hold for every quorum size, every threshold,
  every payload and every argument value; the run theorem holds for every finite event sequence.
  Go `int` arithmetic is modelled in `Int` exactly as written in the validator:
  `failed > n - t`, `unconfirmed > n - t`.
-/
import Dc4bcVerif.Lemmas.SignPhase
import Dc4bcVerif.Lemmas.Reapply
import Dc4bcVerif.Lemmas.Pool

namespace Dc4bcVerif.Props.C06
open Dc4bcVerif.Gen Dc4bcVerif.Model

/-- the deadline test of the validator (`ExpiresAt.Before(UpdatedAt)` on the signing payload) -/
def expired (sc : SignConf) : Prop := sc.expiresAt < sc.updatedAt

/-- invariant of `state_signing_await_partial_signs`: fewer than `t` confirmed, at most `n - t` failed -/
structure AwaitInv (p : Payload) (sc : SignConf) : Prop where
  hsign : p.sign = some sc
  failed_le : cntSt sc 2 ≤ (sc.quorum.length : Int) - p.threshold
  confirmed_lt : cntSt sc 1 < p.threshold

/-- `signAfterValidate_cases` (Lemmas/SignPhase) as an if-chain -/
theorem signAfter_cases (o : AOut) (a : Arg) (sc : SignConf) (hs : o.payload.sign = some sc) :
    let out := signAfterValidate o a
    let n : Int := sc.quorum.length
    out.res = .ok ∧
    (if sc.expiresAt < sc.updatedAt then out.state = sCANCTO ∧ out.payload = o.payload
     else if cntSt sc 2 > n - o.payload.threshold then out.state = sCANCERR ∧ out.payload = o.payload
     else if n - cntSt sc 1 > n - o.payload.threshold then out.state = sAWAIT ∧ out.payload = o.payload
     else out.state = sCOLLECTED ∧ out.payload = { o.payload with sign := some (markProcess sc) }) := by
  obtain ⟨hr, h⟩ := signAfterValidate_cases o a sc hs
  refine ⟨hr, ?_⟩
  rcases h with ⟨h1, h⟩ | ⟨h1, h2, h⟩ | ⟨h1, h2, h3, h⟩ | ⟨h1, h2, h3, h⟩
  · rw [if_pos h1]; exact h
  · rw [if_neg h1, if_pos h2]; exact h
  · rw [if_neg h1, if_neg h2, if_pos h3]; exact h
  · rw [if_neg h1, if_neg h2, if_neg h3]; exact h

/-- **batch_bound / no_double_count / known participant.** A partial-signature message is
accepted in `await` only if it names the *current* batch and comes from a quorum member whose
contribution is still awaited (status `SigningAwaitPartialSigns`); otherwise nothing changes. -/
theorem received_accepted_only_if (p : Payload) (a : Arg) (sc : SignConf) (hs : p.sign = some sc)
    (hok : (doEvent signMachine runAction sAWAIT p eRECEIVED a).res = .ok) :
    ∃ pid signs ts part, a = .partialSigns sc.batchId pid signs ts ∧
      getAt sc.quorum pid = some part ∧ part.status = 0 := by
  obtain ⟨hok', _⟩ := accepted_of_ite (sign_do_received p a) rfl hok
  obtain ⟨-, -, -, hacc⟩ := sign_received_spec p eRECEIVED a
  obtain ⟨b, pid, signs, ts, sc', part, sg, ps, ha, hs', -, hb, hg, hst, -⟩ := hacc hok'
  rw [hs] at hs'; cases hs'
  exact ⟨pid, signs, ts, part, by rw [ha, hb], hg, hst⟩

theorem received_rejected_noop (p : Payload) (a : Arg)
    (herr : (doEvent signMachine runAction sAWAIT p eRECEIVED a).res = .err) :
    (doEvent signMachine runAction sAWAIT p eRECEIVED a).state = sAWAIT ∧
    (doEvent signMachine runAction sAWAIT p eRECEIVED a).payload = p := by
  obtain ⟨-, -, hrej, hacc⟩ := sign_received_spec p eRECEIVED a
  rw [sign_do_received] at herr ⊢
  dsimp only at herr ⊢
  by_cases hr : (sign_actionPartialSignConfirmationReceived eRECEIVED p a).res = .ok
  · -- the callback accepted: then so did the validator, and `Do` did not end in an error
    rw [if_neg (by simp [hr])] at herr
    obtain ⟨b, pid, signs, ts, sc, part, sg, ps, -, -, -, -, -, -, hp⟩ := hacc hr
    have := (signAfterValidate_cases _ a _ (by rw [hp])).1
    rw [herr] at this; cases this
  · rw [if_pos (by simpa using hr)] at herr ⊢
    exact ⟨rfl, hrej herr⟩

/-- the validator's verdict once a member of the batch that was still awaited (`part`) has been replaced by `part'`:
the counts of confirmed and failed members grow by what `part'` adds, and the verdict is read off them in the
validator's order (deadline, failures, confirmations) -/
theorem answer_outcome (t : Int) (sc : SignConf) (o : AOut) (a : Arg) (pid : Int) (part part' : SignPart)
    (hg : getAt sc.quorum pid = some part) (hst : part.status = 0)
    (hp : o.payload.sign = some { sc with quorum := setAt sc.quorum pid part' }) (hthr : o.payload.threshold = t) :
    let out := signAfterValidate o a
    let sc' : SignConf := { sc with quorum := setAt sc.quorum pid part' }
    let n : Int := sc.quorum.length
    cntSt sc' 1 = cntSt sc 1 + (if part'.status = 1 then 1 else 0) ∧
    cntSt sc' 2 = cntSt sc 2 + (if part'.status = 2 then 1 else 0) ∧
    ((expired sc ∧ out.state = sCANCTO) ∨
     (¬ expired sc ∧ cntSt sc' 2 > n - t ∧ out.state = sCANCERR) ∨
     (¬ expired sc ∧ cntSt sc' 2 ≤ n - t ∧ cntSt sc' 1 < t ∧ out.state = sAWAIT ∧
        AwaitInv out.payload sc') ∨
     (¬ expired sc ∧ cntSt sc' 2 ≤ n - t ∧ t ≤ cntSt sc' 1 ∧ out.state = sCOLLECTED)) := by
  intro out sc' n
  have hc1 := cntSt_setAt sc pid part part' 1 hg
  have hc2 := cntSt_setAt sc pid part part' 2 hg
  simp only [hst, beq_iff_eq] at hc1 hc2
  refine ⟨by simpa using hc1, by simpa using hc2, ?_⟩
  have hlen : sc'.quorum.length = sc.quorum.length := setAt_length _ _ _
  have hcases := (signAfterValidate_cases o a sc' hp).2
  simp only [hthr, hlen] at hcases
  rcases hcases with ⟨he, hs, _⟩ | ⟨he, h2, hs, _⟩ | ⟨he, h2, h3, hs, hpl⟩ | ⟨he, h2, h3, hs, _⟩
  · exact .inl ⟨he, hs⟩
  · exact .inr (.inl ⟨he, h2, hs⟩)
  · refine .inr (.inr (.inl ⟨he, by omega, by omega, hs, ?_⟩))
    rw [hpl]
    exact ⟨hp, by rw [hlen, hthr]; omega, by rw [hthr]; omega⟩
  · exact .inr (.inr (.inr ⟨he, by omega, by omega, hs⟩))

/-- **collected_iff_t.** In `await` (invariant: fewer than `t` confirmed, at most `n-t` failed) an
accepted contribution moves the round to `partial_signs_collected` exactly when it is the `t`-th
one; otherwise the round keeps waiting with the invariant re-established. (Deadline expiry is
the only other outcome.) -/
theorem received_outcome (p : Payload) (a : Arg) (sc : SignConf) (hinv : AwaitInv p sc)
    (hok : (doEvent signMachine runAction sAWAIT p eRECEIVED a).res = .ok) :
    let out := doEvent signMachine runAction sAWAIT p eRECEIVED a
    (expired sc ∧ out.state = sCANCTO) ∨
    (¬ expired sc ∧ cntSt sc 1 + 1 = p.threshold ∧ out.state = sCOLLECTED) ∨
    (¬ expired sc ∧ cntSt sc 1 + 1 < p.threshold ∧ out.state = sAWAIT ∧
      ∃ sc', AwaitInv out.payload sc' ∧ cntSt sc' 1 = cntSt sc 1 + 1 ∧ cntSt sc' 2 = cntSt sc 2 ∧
        sc'.batchId = sc.batchId) := by
  obtain ⟨hok', hr⟩ := accepted_of_ite (sign_do_received p a) rfl hok
  rw [hr]
  obtain ⟨-, -, -, hacc⟩ := sign_received_spec p eRECEIVED a
  obtain ⟨b, pid, signs, ts, sc0, part, sg, ps, ha, hs', hsg, hb, hg, hst, hp⟩ := hacc hok'
  cases hinv.hsign.symm.trans hs'
  obtain ⟨hc1, hc2, hcase⟩ := answer_outcome p.threshold sc _ a pid part _ hg hst (by rw [hp]) (by rw [hp])
  simp only [↓reduceIte, Nat.reduceEqDiff, Int.add_zero] at hc1 hc2
  have hf := hinv.failed_le
  have hcl := hinv.confirmed_lt
  rcases hcase with ⟨he, h'⟩ | ⟨_, hf', _⟩ | ⟨he, _, hc, h', hinv'⟩ | ⟨he, _, hc, h'⟩
  · exact Or.inl ⟨he, h'⟩
  · omega
  · exact Or.inr (Or.inr ⟨he, by omega, h', _, hinv', hc1, hc2, rfl⟩)
  · exact Or.inr (Or.inl ⟨he, by omega, h'⟩)

/-- **cancel_iff.** An accepted failure report cancels the batch exactly when it makes the number of
failed participants exceed `n - t`; otherwise the round keeps waiting. -/
theorem signerr_outcome (p : Payload) (a : Arg) (sc : SignConf) (hinv : AwaitInv p sc)
    (hok : (doEvent signMachine runAction sAWAIT p eSIGNERR a).res = .ok) :
    let out := doEvent signMachine runAction sAWAIT p eSIGNERR a
    let n : Int := sc.quorum.length
    (expired sc ∧ out.state = sCANCTO) ∨
    (¬ expired sc ∧ cntSt sc 2 + 1 > n - p.threshold ∧ out.state = sCANCERR) ∨
    (¬ expired sc ∧ cntSt sc 2 + 1 ≤ n - p.threshold ∧ out.state = sAWAIT ∧
      ∃ sc', AwaitInv out.payload sc' ∧ cntSt sc' 1 = cntSt sc 1 ∧ cntSt sc' 2 = cntSt sc 2 + 1 ∧
        sc'.batchId = sc.batchId) := by
  obtain ⟨hok', hr⟩ := accepted_of_ite (sign_do_signerr p a) rfl hok
  rw [hr]
  obtain ⟨-, -, -, hacc⟩ := sign_signerr_spec p a
  obtain ⟨pid, err, ts, sc0, part, sg, ha, hs', hsg, hg, hst, hp⟩ := hacc hok'
  cases hinv.hsign.symm.trans hs'
  obtain ⟨hc1, hc2, hcase⟩ := answer_outcome p.threshold sc _ a pid part _ hg hst (by rw [hp]) (by rw [hp])
  simp only [↓reduceIte, Nat.reduceEqDiff, Int.add_zero] at hc1 hc2
  have hcl := hinv.confirmed_lt
  rcases hcase with ⟨he, h'⟩ | ⟨he, hf', h'⟩ | ⟨he, hf', _, h', hinv'⟩ | ⟨_, _, hc, _⟩
  · exact Or.inl ⟨he, h'⟩
  · exact Or.inr (Or.inl ⟨he, by omega, h'⟩)
  · exact Or.inr (Or.inr ⟨he, by omega, h', _, hinv', hc1, hc2, rfl⟩)
  · omega

/-- whenever the validator leaves (or puts) the round in `await`, the invariant holds — it is
re-established by the validator's own branch conditions -/
theorem signAfterValidate_await_inv (o : AOut) (a : Arg) (sc : SignConf) (hs : o.payload.sign = some sc)
    (hst : (signAfterValidate o a).state = sAWAIT) : AwaitInv (signAfterValidate o a).payload sc := by
  rcases (signAfterValidate_cases o a sc hs).2 with ⟨_, h, _⟩ | ⟨_, _, h, _⟩ | ⟨_, h2, h3, _, hpl⟩ | ⟨_, _, _, h, _⟩
  · rw [h] at hst; cases hst
  · rw [h] at hst; cases hst
  · rw [hpl]
    exact ⟨hs, by omega, by omega⟩
  · rw [h] at hst; cases hst

/-- the invariant carried along every run: the instance's machine is the one the pool picks for
its state, and in `await` fewer than `t` have confirmed and at most `n - t` have failed -/
def SignInv (i : Instance) : Prop :=
  poolState i.state = some i.machine ∧ (i.state = sAWAIT → ∃ sc, AwaitInv i.payload sc)

/-- only the signing machine has rows into `await`, and they leave `idle` (the start of a batch) or `await` itself -/
theorem rows_into_await (mid : MachineId) : ∀ d ∈ (machineOf mid).events, d.dst = sAWAIT →
    mid = .sign ∧ ∀ s ∈ d.src, s = sIDLE ∨ s = sAWAIT := by
  cases mid <;> decide

/-- a batch is waited for only after its start (from `idle`) or while one is waited for already: from no other state
does one accepted `Do` end in `await` -/
theorem await_unreachable_elsewhere (mid : MachineId) (s : St) (hI : s ≠ sIDLE) (hA : s ≠ sAWAIT) :
    sAWAIT ∉ reach1 (machineOf mid) s := by
  have key : ∀ {s : St}, sAWAIT ∈ succs (machineOf mid) s → mid = .sign ∧ (s = sIDLE ∨ s = sAWAIT) := by
    intro s h
    obtain ⟨d, hd, hs, hdst⟩ := mem_succs_row h
    exact (rows_into_await mid d hd hdst).imp_right (· s hs)
  intro h
  obtain ⟨s1, h1, h⟩ := List.mem_flatMap.mp h
  rcases List.mem_cons.mp h with rfl | h
  · exact (key h1).2.elim hI hA
  · -- `await` reached by the after-auto step from `s1`: then `s1` is `idle`, which has no auto event, or `await`, which
    -- the first edge could not reach either
    split at h
    · rename_i hau
      obtain ⟨rfl, rfl | rfl⟩ := key h
      · rw [show autoLookup (machineOf .sign) sIDLE 2 = none from idle_no_auto] at hau; cases hau
      · exact (key h1).2.elim hI hA
    · cases h

theorem validated_await_inv {out x : Out} {o : AOut} {a : Arg}
    (hdo : out = if o.res != .ok then x else signAfterValidate o a) (hx : x.res = o.res) (hok : out.res = .ok)
    (hst : out.state = sAWAIT) : ∃ sc, AwaitInv out.payload sc := by
  obtain ⟨-, rfl⟩ := accepted_of_ite hdo hx hok
  obtain ⟨sc, hs⟩ := signAfterValidate_ok_sign hok
  exact ⟨sc, signAfterValidate_await_inv o a sc hs hst⟩

/-- an accepted `Do` of the machine in charge that leaves the round waiting for partial signatures leaves it with the
invariant: only a contribution, a failure report or the start of a batch end there, and after each the validator has run -/
theorem awaitInv_do (s : St) (p : Payload) (e : Ev) (a : Arg)
    (hok : (doEvent (machineOf (owner s)) runAction s p e a).res = .ok)
    (hst : (doEvent (machineOf (owner s)) runAction s p e a).state = sAWAIT) :
    ∃ sc, AwaitInv (doEvent (machineOf (owner s)) runAction s p e a).payload sc := by
  have he := doEvent_ok_public hok
  by_cases hA : s = sAWAIT
  · subst hA
    obtain rfl | rfl : e = eRECEIVED ∨ e = eSIGNERR := by simpa [owner, machineOf, sign_await_public] using he
    · exact validated_await_inv (sign_do_received p a) rfl hok hst
    · exact validated_await_inv (sign_do_signerr p a) rfl hok hst
  by_cases hI : s = sIDLE
  · subst hI
    obtain rfl : e = eSTART := by simpa [owner, machineOf, sign_idle_public] using he
    exact validated_await_inv (sign_do_start p a) rfl hok hst
  · exact absurd (hst ▸ (doEvent_ok_reach _ runAction s p e a (no_before_auto _ s) hok).2)
      (await_unreachable_elsewhere _ s hI hA)

theorem signInv_step (i : Instance) (ea : Ev × Arg) (h : SignInv i) : SignInv (persistStep i ea) :=
  persistStep_inv (Inv := fun s p => s = sAWAIT → ∃ sc, AwaitInv p sc)
    (fun s p e a _ hok hst => awaitInv_do s p e a hok hst) i ea h

/-- **Run theorem.** Along every finite sequence of events (any events, any arguments, accepted or
rejected) applied to a freshly created round, whenever the round waits for partial signatures,
fewer than `t` participants are counted as confirmed and at most `n - t` as failed. Together with
`received_outcome` / `signerr_outcome`: reconstruction starts on the step that brings the count
to exactly `t`, and cancellation on the step that brings the failures above `n - t`. -/
theorem await_invariant (id : String) (evs : List (Ev × Arg)) : SignInv (run (Instance.create id) evs) := by
  apply run_induction signInv_step
  exact ⟨poolState_eq _, by intro h; cases h⟩

/-- **returns_to_idle**, table part: the three states a batch can end in all lead back to `idle`
through `event_signing_restart`, nothing else leaves them, and `idle` accepts the next proposal. -/
theorem restart_edges :
    setState signMachine sCOLLECTED eRESTART = some sIDLE ∧
    setState signMachine sCANCERR eRESTART = some sIDLE ∧
    setState signMachine sCANCTO eRESTART = some sIDLE ∧
    setState signMachine sIDLE eSTART = some sAWAIT :=
  ⟨setState_of_lookup (sign_lookup_restart (.inl rfl)), setState_of_lookup (sign_lookup_restart (.inr (.inl rfl))),
   setState_of_lookup (sign_lookup_restart (.inr (.inr rfl))), setState_of_lookup sign_lookup_start⟩

theorem restart_goes_idle (s : St) (hs : s = sCOLLECTED ∨ s = sCANCERR ∨ s = sCANCTO) (p : Payload) (a : Arg) :
    (doEvent signMachine runAction s p eRESTART a).state = sIDLE ∧
    (doEvent signMachine runAction s p eRESTART a).res = .ok ∧
    (doEvent signMachine runAction s p eRESTART a).payload = p :=
  sign_restart s hs p a

/-- non-vacuity: n = 3, t = 2, one confirmed, nobody failed satisfies the invariant -/
def exampleConf : SignConf :=
  { createdAt := 0, expiresAt := 10,
    quorum := [{ username := "a", status := 1, updatedAt := 0 }, { username := "b", status := 0, updatedAt := 0 },
               { username := "c", status := 0, updatedAt := 0 }] }

example : AwaitInv { dkgId := "r", threshold := 2, sign := some exampleConf } exampleConf :=
  ⟨rfl, by decide, by decide⟩

end Dc4bcVerif.Props.C06
