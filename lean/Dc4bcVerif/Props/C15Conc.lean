/-
  C15, "…after which the operation is no longer pending and cannot be answered again" - for two submissions of the same
  result AT THE SAME TIME (the HTTP server of the node handles requests concurrently; fix 1cb311a).

  * `answer_is_one_locked_step` - in the source (`Gen/RoundLock.lean`, regenerated): `executeOperation` takes `answerMu`
    before it looks the operation up, lets it go only on return (deferred, no other Unlock), and looks up, posts, retires in
    that order. With the lock, two concurrent submissions are one of the two serial orders.
  * `twice_posts_once` - on the node model (`Model/NodeOps.lean`), for EVERY node state and submission: a submission that was
    accepted, submitted again, is refused, posts nothing and changes nothing.
  * `unlocked_duplicate_posts_twice` / `locked_duplicate_posts_once` - the three steps of two submissions as separate steps
    over one operation: without the lock there is an interleaving that posts twice (the pinned tree; nodediff's concurrent
    duplicate submission shows it on the real code), with each submission one step both orders post once.
  Core-only.
-/
import Dc4bcVerif.Props.C15
import Dc4bcVerif.Gen.RoundLock

namespace Dc4bcVerif.Props.C15Conc
open Dc4bcVerif.Gen Dc4bcVerif.Model Dc4bcVerif.Model.Node Dc4bcVerif.Props.C15

theorem answer_is_one_locked_step :
    RoundLock.answerSteps.take 2 = ["answerMu.Lock", "defer answerMu.Unlock"] ∧
    RoundLock.answerSteps.drop 2 = ["lookup", "post", "retire"] := ⟨rfl, rfl⟩

theorem twice_posts_once (st : NodeSt) (sub : SubOp) (hev : sub.event ≠ "operation_processed_successfully")
    (hok : (executeOperation st sub).out = .ok) :
    (executeOperation (executeOperation st sub).st sub).posted = [] ∧
    (executeOperation (executeOperation st sub).st sub).out = .reject ∧
    (executeOperation (executeOperation st sub).st sub).st = (executeOperation st sub).st := by
  obtain ⟨stored, hid, _, hdel⟩ := retired_after_ok st sub hev hok
  obtain ⟨a, b, c⟩ := tombstoned_rejected _ sub stored hid hdel
  exact ⟨b, a, c⟩

/-- one pending operation: is it still pending, how often was its result posted -/
structure Pool1 where
  pending : Bool := true
  posted : Nat := 0
  deriving DecidableEq

/-- what a submission remembers between its steps: did the lookup find the operation pending -/
abbrev Local := Option Bool

inductive Step | lookup | post | retire
  deriving DecidableEq

/-- one step of submission `i` (0 or 1) -/
def step (s : Pool1 × Local × Local) (i : Fin 2) (k : Step) : Pool1 × Local × Local :=
  let (p, l0, l1) := s
  let l := if i = 0 then l0 else l1
  let set (v : Local) : Local × Local := if i = 0 then (v, l1) else (l0, v)
  match k with
  | .lookup => (p, set (some p.pending))
  | .post => if l = some true then ({ p with posted := p.posted + 1 }, l0, l1) else s
  | .retire => if l = some true then ({ p with pending := false }, l0, l1) else s

def runSteps (l : List (Fin 2 × Step)) : Pool1 × Local × Local := l.foldl (fun s e => step s e.1 e.2) ({}, none, none)

/-- both submissions look the operation up before either has retired it: posted twice -/
theorem unlocked_duplicate_posts_twice :
    (runSteps [(0, .lookup), (1, .lookup), (0, .post), (1, .post), (0, .retire), (1, .retire)]).1.posted = 2 := by decide

/-- one submission after the other (what `answerMu` makes of two concurrent ones), in either order: posted once -/
theorem locked_duplicate_posts_once :
    (runSteps [(0, .lookup), (0, .post), (0, .retire), (1, .lookup), (1, .post), (1, .retire)]).1.posted = 1 ∧
    (runSteps [(1, .lookup), (1, .post), (1, .retire), (0, .lookup), (0, .post), (0, .retire)]).1.posted = 1 := by decide

end Dc4bcVerif.Props.C15Conc
