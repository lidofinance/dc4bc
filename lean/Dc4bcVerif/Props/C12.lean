/-
  C12 — an airgapped machine restarted mid-ceremony and replayed continues identically.

  Over `Model/Air.lean`, for EVERY deterministic handler `H` whose unlogged (signing) operations leave the
  DKG instance alone:
  * `consistent_run`: after any sequence of operations the volatile instance is exactly what replaying the
    durable log rebuilds;
  * `restart_is_identity`: hence stopping the machine after any step, reopening it and replaying the log
    gives back the very same machine, and `carries_on`: every later result and the final state are those
    of a machine that never stopped — for any number of restarts (`carries_on_many`);
  * `dies_before_log`: a kill after the result was computed but before it was logged loses exactly that
    operation: after the restart the machine is the one before it, and feeding the operation again gives
    the result a machine that never stopped gives;
  * `replayed_result`: a kill after logging but before the result file was written: the replay itself
    re-produces the lost result (its last result is the original one);
  * `same_seed_same_machine`: two machines fed the same operations are equal (the handler is a function of
    the seed-derived state: there is no other input).
  Assumed (trusted base): the handlers are deterministic up to encoding (map iteration order of deals /
  responses, ECIES randomness) and signing requests do not modify the DKG instance — both checked on real
  machines by airdiff, which stops real machines at every such point.
-/
import Dc4bcVerif.Model.Air

namespace Dc4bcVerif.Props.C12
open Dc4bcVerif.Model.Air

variable {V Op R : Type}

def Consistent (h : H V Op R) (m : Machine V Op) : Prop := m.inst = replayState h m.log

/-- signing requests (not logged) do not touch the DKG instance -/
def UnloggedPure (h : H V Op R) (logged : Op → Bool) : Prop := ∀ v op, logged op = false → (h v op).1 = v

theorem fresh_consistent (h : H V Op R) : Consistent h (fresh : Machine V Op) := rfl

theorem replayState_append (h : H V Op R) (l : List Op) (op : Op) :
    replayState h (l ++ [op]) = (h (replayState h l) op).1 := by
  unfold replayState; rw [List.foldl_append]; rfl

theorem process_consistent (h : H V Op R) (logged : Op → Bool) (hp : UnloggedPure h logged) (m : Machine V Op) (op : Op)
    (hc : Consistent h m) : Consistent h (processOp h logged m op).1 := by
  unfold Consistent processOp at *
  by_cases hl : logged op = true
  · simp only [hl, ↓reduceIte]
    rw [replayState_append, ← hc]
  · have hl' : logged op = false := by simpa using hl
    simp only [hl', Bool.false_eq_true, ↓reduceIte]
    rw [hp m.inst op hl']; exact hc

theorem consistent_run (h : H V Op R) (logged : Op → Bool) (hp : UnloggedPure h logged) (ops : List Op) (m : Machine V Op)
    (hc : Consistent h m) : Consistent h (runOps h logged m ops).1 := by
  induction ops generalizing m with
  | nil => exact hc
  | cons op rest ih =>
    unfold runOps
    exact ih _ (process_consistent h logged hp m op hc)

theorem restart_is_identity (h : H V Op R) (m : Machine V Op) (hc : Consistent h m) : restart h m = m := by
  unfold restart
  rw [← hc]

theorem carries_on (h : H V Op R) (logged : Op → Bool) (hp : UnloggedPure h logged) (before after : List Op) :
    runOps h logged (restart h (runOps h logged fresh before).1) after = runOps h logged (runOps h logged fresh before).1 after := by
  rw [restart_is_identity h _ (consistent_run h logged hp before fresh (fresh_consistent h))]

/-- the same with a restart after every single operation -/
def runWithRestarts (h : H V Op R) (logged : Op → Bool) (m : Machine V Op) : List Op → Machine V Op × List R
  | [] => (m, [])
  | op :: rest =>
    let (m1, r) := processOp h logged m op
    let (m2, rs) := runWithRestarts h logged (restart h m1) rest
    (m2, r :: rs)

theorem carries_on_many (h : H V Op R) (logged : Op → Bool) (hp : UnloggedPure h logged) (ops : List Op) (m : Machine V Op)
    (hc : Consistent h m) : runWithRestarts h logged m ops = runOps h logged m ops := by
  induction ops generalizing m with
  | nil => rfl
  | cons op rest ih =>
    unfold runWithRestarts runOps
    have hc1 := process_consistent h logged hp m op hc
    cases hpo : processOp h logged m op with
    | mk m1 r =>
      rw [hpo] at hc1
      simp only
      rw [restart_is_identity h m1 hc1, ih m1 hc1]

/-- Killed after the handler ran, before the operation was logged: after the restart the machine
is the one before the operation — nothing half-done survives — so feeding the operation again behaves as if it was fed once. -/
theorem dies_before_log (h : H V Op R) (m : Machine V Op) (hc : Consistent h m) (op : Op) :
    restart h (diesBeforeLog h m op) = m :=
  -- the restart reads the log only, and the log is the one before the operation
  restart_is_identity h m hc

theorem replayResults_append (h : H V Op R) (v : Option V) (l : List Op) (op : Op) :
    replayResults h v (l ++ [op]) = replayResults h v l ++ [(h (l.foldl (fun v op => (h v op).1) v) op).2] := by
  induction l generalizing v with
  | nil => rfl
  | cons x t ih => simp only [List.cons_append, replayResults, List.foldl_cons]; rw [ih]

/-- Killed after the operation was logged, before its result file was written: the replay writes
the results of all logged operations again, and the last one is the lost result. -/
theorem replayed_result (h : H V Op R) (logged : Op → Bool) (m : Machine V Op) (hc : Consistent h m) (op : Op) (hl : logged op = true) :
    (replayResults h none (processOp h logged m op).1.log).getLast? = some (processOp h logged m op).2 := by
  unfold processOp
  simp only [hl, ↓reduceIte]
  rw [replayResults_append]
  simp only [List.getLast?_append, List.getLast?_singleton, Option.some_or]
  unfold Consistent replayState at hc
  rw [← hc]

/-- **same_seed_same_machine.** There is no input but the operations: two machines started alike and fed the same
operations are equal, and so are their results. -/
theorem same_seed_same_machine (h : H V Op R) (logged : Op → Bool) (ops : List Op) (m1 m2 : Machine V Op) (he : m1 = m2) :
    runOps h logged m1 ops = runOps h logged m2 ops := by rw [he]

/-- non-vacuity: a counting handler whose unlogged operation `false` is pure -/
example : UnloggedPure (fun (v : Option Nat) (op : Bool) => (if op then some (v.getD 0 + 1) else v, v.getD 0)) (fun op => op) := by
  intro v op h; simp at h; simp [h]

end Dc4bcVerif.Props.C12
