/-
  C20 / C12, the airgapped side: Go's map order in the master-key step (`dkg.ProcessResponses` ranges over `indexToData`).

  The responses a machine examines change the verifiers' response tables, never the deals they hold; the key ring of the round is
  computed from the deals alone (`distKey`: sum of the shares received, sum of the commitments). Hence:
  * `processResponses_deals`            - after the step, in ANY range order, every verifier holds the deal it held before;
  * `distKey_processResponses`          - the key ring the step computes is the key ring of the deals before it;
  * `master_key_ring_order_irrelevant`  - two range orders that are both answered with an announcement: the same index, master key,
                                          public polynomial and the same stored key ring (polynomial and share).
  Whether the step IS answered may depend on the order only through which refusal comes first (not treated). Core-only.
-/
import Dc4bcVerif.Lemmas.AirDkgSteps

namespace Dc4bcVerif.Props.C20AirMasterKey
-- every statement carries all instance binders of the `variable` line, whether it uses them or not
set_option linter.unusedSectionVars false
open Dc4bcVerif.Model.Shamir Dc4bcVerif.Model.AirDkg Dc4bcVerif.Lemmas.AirDkgSteps

variable {F : Type} [Add F] [Mul F] [Sub F] [Div F] [Zero F] [One F] [DecidableEq F] [NatCast F]
variable {K : Type} [DecidableEq K]

/-- the deals the verifiers of an instance hold, and what else the key ring and the answer read -/
def dealsOf (i : Inst F K) : List (Option (PlainDeal F)) := i.vers.map (·.deal)

theorem dkgProcessResponse_frame (i : Inst F K) (r : RespMsg F) :
    dealsOf (dkgProcessResponse i r).1 = dealsOf i ∧ (dkgProcessResponse i r).1.pid = i.pid ∧ (dkgProcessResponse i r).1.keys = i.keys := by
  refine ⟨?_, dkgProcessResponse_pid i r⟩
  obtain ⟨vers, dr, e, rfl | ⟨v, v', hv, hsame, rfl⟩⟩ := dkgProcessResponse_fst i r <;> rw [e]
  · rfl
  · obtain ⟨hk, rfl⟩ := List.getElem?_eq_some_iff.mp hv
    unfold dealsOf
    have : (i.vers.map (·.deal))[r.dealer]'(by simpa using hk) = i.vers[r.dealer].deal := List.getElem_map ..
    rw [List.map_set, hsame.1, ← this, List.set_getElem_self]

theorem dkgProcessResponse_deals (i : Inst F K) (r : RespMsg F) (hs : r.status = true) :
    dealsOf (dkgProcessResponse i r).1 = dealsOf i ∧ (dkgProcessResponse i r).1.pid = i.pid ∧ (dkgProcessResponse i r).1.keys = i.keys :=
  dkgProcessResponse_frame i r

theorem processRespList_deals (rs : List (RespMsg F)) : ∀ i : Inst F K,
    dealsOf (processRespList i rs).1 = dealsOf i ∧ (processRespList i rs).1.pid = i.pid ∧ (processRespList i rs).1.keys = i.keys := by
  intro i
  refine processRespList_keeps (P := fun j => dealsOf j = dealsOf i ∧ j.pid = i.pid ∧ j.keys = i.keys) (fun j r _ h => ?_) rs i ⟨rfl, rfl, rfl⟩
  obtain ⟨a, b, c⟩ := dkgProcessResponse_frame j r
  exact ⟨a.trans h.1, b.trans h.2.1, c.trans h.2.2⟩

theorem processResponses_deals (ord : List Nat) : ∀ i : Inst F K,
    dealsOf (processResponses i ord).1 = dealsOf i ∧ (processResponses i ord).1.pid = i.pid := by
  intro i
  refine processResponses_keeps (P := fun j => dealsOf j = dealsOf i ∧ j.pid = i.pid) (fun j r _ h => ?_) ord i ⟨rfl, rfl⟩
  obtain ⟨a, b, _⟩ := dkgProcessResponse_frame j r
  exact ⟨a.trans h.1, b.trans h.2⟩

theorem distKey_congr (i j : Inst F K) (h : dealsOf i = dealsOf j) : distKey i = distKey j := by
  have hf : ∀ x : Inst F K, x.vers.filterMap (·.deal) = (dealsOf x).filterMap id := by
    intro x; unfold dealsOf; rw [List.filterMap_map]; rfl
  have hl : ∀ x : Inst F K, x.vers.length = (dealsOf x).length := by
    intro x; unfold dealsOf; rw [List.length_map]
  unfold distKey
  simp only [hf, hl, h]

theorem distKey_processResponses (i : Inst F K) (ord : List Nat) : distKey (processResponses i ord).1 = distKey i :=
  distKey_congr _ _ (processResponses_deals ord i).1

/-- what an answered master-key step answers and stores, in terms of the instance BEFORE the responses were examined -/
theorem masterKeyOp_answer (m : Machine F K) (round : String) (entries : List (String × Option (List (RespMsg F)))) (ord : List Nat)
    (m1 : Machine F K) (pid : Nat) (key : Option F) (poly : List F)
    (h : masterKeyOp m round entries ord = (m1, Res.masterKey pid key poly)) :
    ∃ i kr, lookup round m.insts = some i ∧ distKey (storeResponses i entries).1 = some kr ∧ pid = i.pid ∧
      key = kr.pubPoly.head? ∧ poly = kr.pubPoly ∧ lookup round m1.rings = some kr := by
  obtain ⟨i, i2, kr, hi, hq, hk, rfl, rfl, rfl, rfl⟩ := masterKeyOp_ok h
  have hd := distKey_processResponses (storeResponses i entries).1 ord
  have hp := (processResponses_deals ord (storeResponses i entries).1).2
  rw [hq] at hd hp
  obtain ⟨_, hs⟩ := storeResponses_fst entries i
  exact ⟨i, kr, hi, hd ▸ hk, by rw [hp, hs], rfl, rfl, lookup_file_rings ..⟩

theorem master_key_ring_order_irrelevant (m : Machine F K) (round : String) (entries : List (String × Option (List (RespMsg F))))
    (o1 o2 : List Nat) (m1 m2 : Machine F K) (pid1 pid2 : Nat) (k1 k2 : Option F) (p1 p2 : List F)
    (h1 : masterKeyOp m round entries o1 = (m1, Res.masterKey pid1 k1 p1))
    (h2 : masterKeyOp m round entries o2 = (m2, Res.masterKey pid2 k2 p2)) :
    pid1 = pid2 ∧ k1 = k2 ∧ p1 = p2 ∧ lookup round m1.rings = lookup round m2.rings := by
  obtain ⟨i, kr, a1, a2, a3, a4, a5, a6⟩ := masterKeyOp_answer m round entries o1 m1 pid1 k1 p1 h1
  obtain ⟨j, kr', b1, b2, b3, b4, b5, b6⟩ := masterKeyOp_answer m round entries o2 m2 pid2 k2 p2 h2
  rw [a1] at b1; cases b1
  rw [a2] at b2; cases b2
  exact ⟨a3.trans b3.symm, a4.trans b4.symm, a5.trans b5.symm, a6.trans b6.symm⟩

end Dc4bcVerif.Props.C20AirMasterKey
