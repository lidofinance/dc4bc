/-
  C07 — every batch signed by t honest participants is reconstructed on every node; answers of slow
  participants to a finished batch do not disturb later batches.

  The theorems are about the signing machine (generated table + modelled callbacks) and the node model:
  * safety of the collecting batch: nothing but its own answers / failure reports touches it
    (`proposal_while_collecting_rejected`, `stale_answer_rejected`, `answer_in_idle_rejected`,
    `answered_twice_rejected`) — this is what makes late answers harmless;
  * progress: a well-formed answer of a still awaited participant is always accepted
    (`valid_contribution_accepted`), and `t` of them from distinct participants — in any order, whatever
    the other participants do later — end in `partial_signs_collected` (`t_answers_collect`);
  * the node turns `collected` into a broadcast reconstructed signature and an idle round in the same
    step (`collected_step`), and stores every broadcast it sees (`broadcast_stored`).
  Delivery order of *different* nodes' polls is irrelevant because every node is a function of the board
  log (C08). What is not proved: that reconstruction itself succeeds (C01 proves it for the algebra; in
  the node model it is the oracle `recon`), and wall-clock deadlines (7 days, never evaluated by the
  validator because contributions do not update the signing payload's `UpdatedAt`).
-/
import Dc4bcVerif.Props.C06
import Dc4bcVerif.Lemmas.SigStoreIdem

namespace Dc4bcVerif.Props.C07
open Dc4bcVerif.Gen Dc4bcVerif.Model Dc4bcVerif.Props.C06

/-- a proposal that arrives while a batch is collecting is refused and changes nothing: a batch cannot be
replaced or restarted from outside -/
theorem proposal_while_collecting_rejected (p : Payload) (a : Arg) :
    doEvent signMachine runAction sAWAIT p eSTART a = ⟨none, .err, sAWAIT, p⟩ :=
  doEvent_route (sign_await_other eSTART (by decide) (by decide))

/-- while collecting, every event other than an answer or a failure report is refused without effect -/
theorem other_events_rejected_while_collecting (p : Payload) (e : Ev) (a : Arg) (h1 : e ≠ eRECEIVED) (h2 : e ≠ eSIGNERR) :
    doEvent signMachine runAction sAWAIT p e a = ⟨none, .err, sAWAIT, p⟩ :=
  doEvent_route (sign_await_other e h1 h2)

/-- an answer to another (e.g. already finished) batch is refused without effect -/
theorem stale_answer_rejected (p : Payload) (sc : SignConf) (hs : p.sign = some sc) (b : String) (pid : Int)
    (signs : List (String × Bytes)) (ts : Time) (hb : b ≠ sc.batchId) :
    (doEvent signMachine runAction sAWAIT p eRECEIVED (.partialSigns b pid signs ts)).res = .err ∧
    (doEvent signMachine runAction sAWAIT p eRECEIVED (.partialSigns b pid signs ts)).state = sAWAIT ∧
    (doEvent signMachine runAction sAWAIT p eRECEIVED (.partialSigns b pid signs ts)).payload = p := by
  have hact : sign_actionPartialSignConfirmationReceived eRECEIVED p (.partialSigns b pid signs ts) = aErr p := by
    unfold sign_actionPartialSignConfirmationReceived
    simp only [hs]
    split
    · rfl
    · have : (b != sc.batchId) = true := by simp [hb]
      simp only [this, ↓reduceIte]
  rw [sign_do_received, hact]
  exact ⟨rfl, rfl, rfl⟩

/-- after the batch is finished (round idle again) a late answer is a route error without effect -/
theorem answer_in_idle_rejected (p : Payload) (e : Ev) (a : Arg) (h : e ≠ eSTART) :
    doEvent signMachine runAction sIDLE p e a = ⟨none, .err, sIDLE, p⟩ :=
  doEvent_route (sign_idle_other e h)

/-- a participant that has already answered (or failed) cannot answer again: no double counting -/
theorem answered_twice_rejected (p : Payload) (sc : SignConf) (hs : p.sign = some sc) (pid : Int) (part : SignPart)
    (hg : getAt sc.quorum pid = some part) (hst : part.status ≠ 0) (signs : List (String × Bytes)) (ts : Time) :
    (doEvent signMachine runAction sAWAIT p eRECEIVED (.partialSigns sc.batchId pid signs ts)).res ≠ .ok := by
  intro hok
  obtain ⟨pid', signs', ts', part', ha, hg', hst'⟩ := received_accepted_only_if p _ sc hs hok
  cases ha
  rw [hg] at hg'
  cases hg'
  exact hst hst'

/-- a well-formed answer: what `SigningProposalBatchPartialSignRequests.Validate` demands -/
def malformed (b : String) (pid : Int) (signs : List (String × Bytes)) (ts : Time) : Bool :=
  b == "" || isZeroTime ts || pid < 0 || signs.isEmpty || !signs.all (fun s => s.1 != "" && !s.2.isEmpty)

/-- the payload with the answer of participant `pid` recorded (what `actionPartialSignConfirmationReceived` writes) -/
def recorded (p : Payload) (sc : SignConf) (sg : SigConf) (pid : Int) (part : SignPart) (signs : List (String × Bytes)) (ts : Time) :
    Payload :=
  let part' := { part with partialSigns := signs.foldl (fun acc s => assocSet acc s.1 s.2) part.partialSigns, status := 1, updatedAt := ts }
  { p with sign := some { sc with quorum := setAt sc.quorum pid part' }, sig := some { sg with updatedAt := ts } }

theorem answer_recorded (p : Payload) (sc : SignConf) (sg : SigConf) (hs : p.sign = some sc) (hsg : p.sig = some sg)
    (pid : Int) (part : SignPart) (hg : getAt sc.quorum pid = some part) (hst : part.status = 0)
    (signs : List (String × Bytes)) (ts : Time) (hwf : malformed sc.batchId pid signs ts = false) :
    doEvent signMachine runAction sAWAIT p eRECEIVED (.partialSigns sc.batchId pid signs ts) =
      signAfterValidate (aOk (recorded p sc sg pid part signs ts)) (.partialSigns sc.batchId pid signs ts) := by
  have hact : sign_actionPartialSignConfirmationReceived eRECEIVED p (.partialSigns sc.batchId pid signs ts) =
      aOk (recorded p sc sg pid part signs ts) := by
    unfold sign_actionPartialSignConfirmationReceived
    unfold malformed at hwf
    simp only [hwf, Bool.false_eq_true, ↓reduceIte, hs, bne_self_eq_false, hg, hst, hsg, recorded]
  rw [sign_do_received, hact]
  rfl

/-- **valid_contribution_accepted.** While a batch is collecting, a well-formed answer for it from a
participant that is still awaited is accepted — whatever else has happened to the round before. -/
theorem valid_contribution_accepted (p : Payload) (sc : SignConf) (sg : SigConf) (hs : p.sign = some sc) (hsg : p.sig = some sg)
    (pid : Int) (part : SignPart) (hg : getAt sc.quorum pid = some part) (hst : part.status = 0)
    (signs : List (String × Bytes)) (ts : Time) (hwf : malformed sc.batchId pid signs ts = false) :
    (doEvent signMachine runAction sAWAIT p eRECEIVED (.partialSigns sc.batchId pid signs ts)).res = .ok := by
  rw [answer_recorded p sc sg hs hsg pid part hg hst signs ts hwf]
  exact (signAfter_cases _ _ _ rfl).1

/-- the state of a round after a list of answers has been offered one after the other (a rejected
answer changes nothing; once the batch has left `await` the remaining answers are late) -/
def offer : St × Payload → List Arg → St × Payload
  | sp, [] => sp
  | (s, p), a :: rest =>
    if s == sAWAIT then
      let out := doEvent signMachine runAction sAWAIT p eRECEIVED a
      if out.res == .ok then offer (out.state, out.payload) rest else offer (s, p) rest
    else (s, p)

/-- answers of pairwise distinct, still awaited participants to the current batch -/
def GoodAnswers (sc : SignConf) : List Arg → Prop
  | [] => True
  | a :: rest =>
    (∃ pid signs ts part, a = .partialSigns sc.batchId pid signs ts ∧ malformed sc.batchId pid signs ts = false ∧
        getAt sc.quorum pid = some part ∧ part.status = 0 ∧
        -- the later answers come from other participants
        ∀ a' ∈ rest, ∀ pid' signs' ts', a' = .partialSigns sc.batchId pid' signs' ts' → pid' ≠ pid) ∧
    GoodAnswers sc rest

theorem goodAnswers_after (sc : SignConf) (pid : Int) (part' : SignPart) (rest : List Arg)
    (hrest : GoodAnswers sc rest)
    (hdist : ∀ a' ∈ rest, ∀ pid' signs' ts', a' = .partialSigns sc.batchId pid' signs' ts' → pid' ≠ pid) :
    GoodAnswers { sc with quorum := setAt sc.quorum pid part' } rest := by
  induction rest with
  | nil => trivial
  | cons a r ih =>
    obtain ⟨⟨pid1, signs1, ts1, part1, ha, hwf, hg, hst, hd⟩, hr⟩ := hrest
    refine ⟨⟨pid1, signs1, ts1, part1, ha, hwf, ?_, hst, hd⟩, ih hr (fun a' ha' => hdist a' (List.mem_cons_of_mem _ ha'))⟩
    have hne : pid1 ≠ pid := hdist a (List.mem_cons_self ..) pid1 signs1 ts1 ha
    simp only
    rw [getAt_setAt_ne _ _ _ _ hne]
    exact hg

/-- **t_answers_collect.** A batch that is collecting, with `c` answers counted so far (invariant of
`await`: `c < t`, at most `n - t` failures), its deadline not passed: offer it, one after the other and in
any order, well-formed answers of pairwise distinct participants that are still awaited. If there are
at least `t - c` of them, the round ends in `partial_signs_collected` — exactly on the `t`-th counted
answer; later answers are late and change nothing. No bound on `n`, `t` or the number of answers. -/
theorem t_answers_collect (answers : List Arg) :
    ∀ (p : Payload) (sc : SignConf) (sg : SigConf), AwaitInv p sc → p.sig = some sg → ¬ expired sc →
      GoodAnswers sc answers → p.threshold ≤ cntSt sc 1 + (answers.length : Int) →
      (offer (sAWAIT, p) answers).1 = sCOLLECTED := by
  induction answers with
  | nil =>
    intro p sc sg hinv _ _ _ hlen
    have := hinv.confirmed_lt
    simp at hlen
    omega
  | cons a rest ih =>
    intro p sc sg hinv hsg hne hgood hlen
    obtain ⟨⟨pid, signs, ts, part, ha, hwf, hg, hst, hdist⟩, hrest⟩ := hgood
    subst ha
    have hok := valid_contribution_accepted p sc sg hinv.hsign hsg pid part hg hst signs ts hwf
    have hout := received_outcome p _ sc hinv hok
    simp only at hout
    unfold offer
    simp only [beq_self_eq_true, ↓reduceIte, hok]
    rcases hout with ⟨hexp, _⟩ | ⟨_, _, hcol⟩ | ⟨_, hlt, hst', sc', hinv', hc1, _, _⟩
    · exact absurd hexp hne
    · -- collected on this answer; the rest is late
      rw [hcol]
      cases rest <;> simp [offer]
    · -- still collecting with one more counted, on the payload with this answer recorded
      have hrec := answer_recorded p sc sg hinv.hsign hsg pid part hg hst signs ts hwf
      -- the validator touches the payload only when it says `collected`
      have hpay := (signAfterValidate_payload _ _ _ rfl).resolve_right fun h => absurd h.1 (by rw [← hrec, hst']; decide)
      rw [← hrec] at hpay
      rw [hst']
      rw [hpay] at hinv' ⊢
      cases Option.some.inj hinv'.hsign
      apply ih _ _ { sg with updatedAt := ts } hinv' rfl (by exact hne) (goodAnswers_after sc pid _ rest hrest hdist)
      show p.threshold ≤ _
      rw [hc1]
      simp only [List.length_cons, Int.natCast_add, Int.natCast_one] at hlen
      omega

open Dc4bcVerif.Model.Node in
/-- **collected_step.** When the event just applied collected the batch and reconstruction succeeded, the same
handling of the same message posts the reconstructed signatures and saves the round restarted: there is no
reachable saved state in which a node holds a collected batch it has not broadcast. If reconstruction or the
restart fails, nothing is saved at all (the message is rejected as a whole). -/
theorem collected_step (st2 : NodeSt) (i5 : Instance) (rd5 : Option RespData) (m : NMsg) (now : Time)
    (payloadOf : Tasks.Msg → Bytes) (hev : m.event ≠ "event_signing_start") :
    let r := finish st2 i5 (some .s_state_signing_partial_signs_collected) rd5 m now payloadOf
    (r.out = .ok → ∃ sigs i6, m.recon = some sigs ∧ r.sent = [⟨"signature_reconstructed", m.round, sigs⟩] ∧
        restartAfterCollect true i5 now = some i6 ∧ r.st = saveFSM st2 m.round (i6.dumpState, i6.payload)) ∧
    (r.out ≠ .ok → r.st = st2) := by
  have hpl : placeholders st2 m payloadOf = some st2 := by
    unfold placeholders
    rw [if_neg (by simpa using hev)]
  unfold finish reconstructStep
  rw [hpl, show (some St.s_state_signing_partial_signs_collected == some .s_state_signing_partial_signs_collected) = true from rfl]
  dsimp only
  rw [if_pos rfl]
  cases m.recon with
  | none => exact ⟨fun h => Outcome.noConfusion h, fun _ => rfl⟩
  | some sigs =>
    dsimp only
    cases restartAfterCollect true i5 now with
    | none => exact ⟨fun h => Outcome.noConfusion h, fun _ => rfl⟩
    | some i6 => exact ⟨fun _ => ⟨sigs, i6, rfl, rfl, rfl, rfl⟩, fun h => absurd rfl h⟩

theorem addEntry_mem (entries : List Node.RSig) (rs : Node.RSig) : rs ∈ Node.addEntry entries rs := by
  rw [Node.addEntry_eq_touch]
  exact List.mem_of_find?_eq_some ((Idem.get_touch _ entries rs.username rs.username (fun _ => rs) fun _ => rfl).trans (if_pos rfl))

theorem addSig_stored (store : List (String × List (String × List Node.RSig))) (rs : Node.RSig) :
    ∃ bm entries, Node.lookupS (Node.addSig store rs) rs.batch = some bm ∧ Node.lookupS bm rs.msgId = some entries ∧ rs ∈ entries := by
  unfold Node.addSig
  exact ⟨_, _, Node.lookupS_assocSet_eq _ _ _, Node.lookupS_assocSet_eq _ _ _, addEntry_mem _ _⟩

/-- non-vacuity of `GoodAnswers` / `malformed`: one well-formed answer of participant 1 in a 2-quorum -/
example : GoodAnswers { batchId := "b", quorum := [⟨"a", 0, [], none, 0⟩, ⟨"b", 0, [], none, 0⟩], createdAt := 0, expiresAt := 9 }
    [.partialSigns "b" 1 [("m", [1])] 5] := by
  refine ⟨⟨1, [("m", [1])], 5, ⟨"b", 0, [], none, 0⟩, rfl, by decide, by decide, rfl, by simp⟩, trivial⟩

end Dc4bcVerif.Props.C07
