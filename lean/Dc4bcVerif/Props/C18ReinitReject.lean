/-
  C18, "input that is rejected leaves all durable state unchanged", for the re-initialisation handler.

  * `pinned_blank_id_left_an_operation`: the handler of the pinned tree (`reinitDKGPinned`) answers a re-initialisation file
    whose `dkg_id` is empty with a refusal — no round can be created under such an id — AFTER it has registered the
    `reinit_dkg` operation: the refusal leaves a pending operation behind. (Found on the real node by nodediff's probe
    "no dkg_id"; repaired in /repo by the fix "a re-initialisation message without a round id left a pending operation behind".)
  * `blank_id_refused_without_effect`: since the fix such a file is refused before anything is touched.
  * `refusal_is_noop_or_duplicate`: for every node state whose stored rounds are good and carry a state name, and EVERY file: if
    the handler refuses, then either the node is exactly as it was, or the refusal is the operation pool's ("this operation
    is pending already": the same file handled before, its operation not yet answered and its round gone — after a kill
    inside an earlier handling, the known finding C13-kill-inside-reinit), in which case the node is what the replay of the
    file's own messages left.
  * `reachable_inv`, `rejected_reinit_on_a_reachable_node`: both hypotheses hold for every state reached from an empty state
    database by any sequence of board messages and re-initialisation files, so the statement holds there outright.
-/
import Dc4bcVerif.Props.C18Reinit

namespace Dc4bcVerif.Props.C18ReinitReject
open Dc4bcVerif.Gen Dc4bcVerif.Model Dc4bcVerif.Model.Node Dc4bcVerif.Props

def emptyNode (self : String) : NodeSt := { self := self }

theorem pinned_blank_id_left_an_operation :
    let r := reinitDKGPinned (emptyNode "node_0") { dkgId := "", participants := [], inner := [] } 0 (fun _ => [])
    r.out = .reject ∧ r.st.ops.length = 1 ∧ (emptyNode "node_0").ops.length = 0 := by decide

theorem blank_id_refused_without_effect (st : NodeSt) (req : ReinitReq) (now : Time) (payloadOf : Tasks.Msg → Bytes)
    (hb : blankId req.dkgId = true) :
    (reinitDKG st req now payloadOf).st = st ∧ (reinitDKG st req now payloadOf).out = .reject := by
  unfold reinitDKG; simp [hb]

example : blankId "" = true ∧ blankId "  \t" = true ∧ blankId "round-1" = false := by decide

def Named (st : NodeSt) : Prop := ∀ r ds p, lookupS st.rounds r = some (ds, p) → ∃ s, ds = some s

theorem fromGood_named (i : Instance) (h : C18Node.FromGood i) : ∃ s, i.dumpState = some s := by
  obtain ⟨g, e, a, o, _, hd⟩ := h
  obtain ⟨hok, hi⟩ := C18Node.doOrReject_ok g e a i o hd
  exact ⟨_, by rw [hi, doEv_fst hok]⟩

theorem named_of_roundsOK (st st' : NodeSt) (R : String) (hn : Named st) (h : C18Node.RoundsOK st st' R) : Named st' := by
  intro r ds p hl
  rcases h with h | ⟨i6, h6, h⟩
  · rw [h] at hl; exact hn r ds p hl
  · rw [h] at hl
    rw [lookupS_assocSet] at hl
    split at hl
    · cases hl; exact fromGood_named i6 h6
    · exact hn r ds p hl

theorem named_reinitLoop (st : NodeSt) (hok : C18Node.NodeOK st) (hn : Named st) (req : ReinitReq) (now : Time)
    (payloadOf : Tasks.Msg → Bytes) : Named (reinitLoop st.self req.dkgId st.skipVerify now payloadOf st req.inner).1 :=
  -- `Named` rides on `NodeOK`
  (reinitLoop_induct (Q := fun st => C18Node.NodeOK st ∧ Named st) _ _ _ now payloadOf (fun _ _ h => h)
    (fun st im _ h => ⟨C18Node.nodeOK_of_roundsOK h.1 (C18Node.processMessage_roundsOK st h.1 im.msg now payloadOf),
      named_of_roundsOK _ _ _ h.2 (C18Node.processMessage_roundsOK st h.1 im.msg now payloadOf)⟩) st req.inner ⟨hok, hn⟩).2

theorem refusal_is_noop_or_duplicate (st : NodeSt) (hok : C18Node.NodeOK st) (hn : Named st) (req : ReinitReq) (now : Time)
    (payloadOf : Tasks.Msg → Bytes) (hrej : (reinitDKG st req now payloadOf).out = .reject) :
    (reinitDKG st req now payloadOf).st = st ∨
    (∃ ops, putOperation (reinitLoop st.self req.dkgId st.skipVerify now payloadOf st req.inner).1
        ⟨"reinit_dkg", req.dkgId, .reinitOps ops⟩ = none ∧
      (reinitDKG st req now payloadOf).st = (reinitLoop st.self req.dkgId st.skipVerify now payloadOf st req.inner).1) := by
  have hnl := named_reinitLoop st hok hn req now payloadOf
  revert hrej
  refine reinitDKG_cases (P := fun r => r.out = .reject → r.st = st ∨
    (∃ ops, putOperation (reinitLoop st.self req.dkgId st.skipVerify now payloadOf st req.inner).1
        ⟨"reinit_dkg", req.dkgId, .reinitOps ops⟩ = none ∧
      r.st = (reinitLoop st.self req.dkgId st.skipVerify now payloadOf st req.inner).1)) st req now payloadOf
    (fun _ _ => Or.inl rfl) (fun _ _ => nofun) (fun st1 ops _ _ hloop hp _ => by rw [hloop]; exact Or.inr ⟨_, hp, rfl⟩) ?_
    (fun _ _ _ _ _ _ _ _ _ _ => nofun)
  intro st1 ops st2 hb _ hloop hp hg _
  -- the id is not blank, so `getInstance` creates - or restores what the replay stored, which carries a state name
  exfalso
  rw [hloop] at hnl
  cases putOperation_some hp
  rcases getInstance_none hg with ⟨ds, p, hlk, hres⟩ | ⟨_, hbl⟩
  · obtain ⟨s, rfl⟩ := hnl req.dkgId ds p hlk
    rw [restore_eq] at hres
    cases hres
  · rw [hb] at hbl; cases hbl

theorem named_item (payloadOf : Tasks.Msg → Bytes) (st : NodeSt) (hok : C18Node.NodeOK st) (hn : Named st) (it : C18Reinit.Item) :
    Named (C18Reinit.consumeItem payloadOf st it) := by
  cases it with
  | msg m now => exact named_of_roundsOK _ _ _ hn (C18Node.top_roundsOK st hok m now payloadOf)
  | reinit req now =>
    refine (reinitDKG_inv (Q := fun st => C18Node.NodeOK st ∧ Named st) st req now payloadOf (fun _ _ h => h)
      (fun st im _ h => ⟨C18Node.nodeOK_of_roundsOK h.1 (C18Node.processMessage_roundsOK st h.1 im.msg now payloadOf),
        named_of_roundsOK _ _ _ h.2 (C18Node.processMessage_roundsOK st h.1 im.msg now payloadOf)⟩)
      (fun _ _ h => h) ?_ ⟨hok, hn⟩).2
    intro st2 st3 inst keys h2 hg
    refine ⟨C18Reinit.nodeOK_saveKeys _ st2 st3 inst keys h2.1 hg, fun r ds p hlk => ?_⟩
    rw [lookupS_saveFSM] at hlk
    split at hlk
    · cases hlk; exact ⟨_, C18Reinit.getInstance_dump _ _ _ _ hg⟩
    · exact h2.2 r ds p hlk

theorem reachable_inv (self : String) (key : Bytes) (skip : Bool) (payloadOf : Tasks.Msg → Bytes) (items : List C18Reinit.Item) :
    C18Node.NodeOK (C18Reinit.consumeAll payloadOf { self := self, selfKey := key, skipVerify := skip } items) ∧
    Named (C18Reinit.consumeAll payloadOf { self := self, selfKey := key, skipVerify := skip } items) :=
  -- `Named` rides on `NodeOK`: one induction with both
  List.foldlRecOn (motive := fun st => C18Node.NodeOK st ∧ Named st) items _
    ⟨C18Node.nodeOK_empty self key skip, fun r ds p hl => by simp [lookupS] at hl⟩
    fun st ⟨hok, hn⟩ it _ => ⟨C18Reinit.nodeOK_consumeItem payloadOf st hok it, named_item payloadOf st hok hn it⟩

/-- **rejected_reinit_on_a_reachable_node.** From an empty state database, after ANY sequence of board messages and
re-initialisation files: a re-initialisation file the node refuses leaves it exactly as it was, unless the refusal is the
operation pool's "pending already". -/
theorem rejected_reinit_on_a_reachable_node (self : String) (key : Bytes) (skip : Bool) (payloadOf : Tasks.Msg → Bytes)
    (items : List C18Reinit.Item) (req : ReinitReq) (now : Time)
    (hrej : (reinitDKG (C18Reinit.consumeAll payloadOf { self := self, selfKey := key, skipVerify := skip } items) req now payloadOf).out = .reject) :
    let st := C18Reinit.consumeAll payloadOf { self := self, selfKey := key, skipVerify := skip } items
    (reinitDKG st req now payloadOf).st = st ∨
      (∃ ops, putOperation (reinitLoop st.self req.dkgId st.skipVerify now payloadOf st req.inner).1
          ⟨"reinit_dkg", req.dkgId, .reinitOps ops⟩ = none ∧
        (reinitDKG st req now payloadOf).st = (reinitLoop st.self req.dkgId st.skipVerify now payloadOf st req.inner).1) := by
  obtain ⟨h1, h2⟩ := reachable_inv self key skip payloadOf items
  exact refusal_is_noop_or_duplicate _ h1 h2 req now payloadOf hrej

end Dc4bcVerif.Props.C18ReinitReject
