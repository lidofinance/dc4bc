/-
  C18, the re-initialisation handler: replaying a dump never ends in the model's stand-in for a Go panic, and leaves
  every stored round satisfying the round invariants — so `node_never_panics_run` extends to logs that contain
  `reinit_dkg` messages (`node_never_panics_run_reinit`).
-/
import Dc4bcVerif.Props.C18Node

namespace Dc4bcVerif.Props.C18Reinit
open Dc4bcVerif.Gen Dc4bcVerif.Model Dc4bcVerif.Model.Node Dc4bcVerif.Props Dc4bcVerif.Props.C18Node Dc4bcVerif.Props.C18Fsm

/-- the phase invariants speak of the invitation and key-generation parts of the payload only -/
theorem phaseInv_parts (s : St) (p p' : Payload) (h1 : p'.sig = p.sig) (h2 : p'.dkg = p.dkg)
    (h : phaseInv s p) : phaseInv s p' := by
  -- in the order of `state_classes`: idle, invitations awaited, invitations collected, the four phases of key generation, the
  -- states of the signing machine (`FinalInv`), the cancelled states (no invariant)
  rcases state_classes s with rfl | rfl | rfl | rfl | rfl | rfl | rfl | hs | hs
  · exact h2.trans h
  · exact h.imp fun _ hx => ⟨h1.trans hx.hsig, h2.trans hx.hdkg, hx.hall, hx.hopen⟩
  · exact ⟨h2.trans h.1, h.2.imp fun _ hx => ⟨h1.trans hx.1, hx.2⟩⟩
  · exact h.imp fun _ hx => ⟨h2.trans hx.hdkg, hx.hall, hx.hopen⟩
  · exact h.imp fun _ hx => ⟨h2.trans hx.hdkg, hx.hall, hx.hopen⟩
  · exact h.imp fun _ hx => ⟨h2.trans hx.hdkg, hx.hall, hx.hopen⟩
  · exact h.imp fun _ hx => ⟨h2.trans hx.hdkg, hx.hall, hx.hopen, hx.hkeys⟩
  · rw [signFamily_phaseInv _ hs] at h ⊢
    exact h.imp fun _ hx => ⟨h2.trans hx.1, hx.2⟩
  · exact cancelledSt_phaseInv s hs p'

theorem good_pubKeys (i : Instance) (keys : List (String × Bytes)) (h : Good i) :
    Good { i with payload := { i.payload with pubKeys := keys } } := by
  obtain ⟨⟨hc, hph⟩, hp1, hp2, hp3⟩ := h
  exact ⟨⟨hc, phaseInv_parts i.state i.payload { i.payload with pubKeys := keys } rfl rfl hph⟩, hp1, hp2, hp3⟩

theorem getInstance_dump (st st' : NodeSt) (R : String) (inst : Instance) (h : getInstance st R = some (st', inst)) :
    inst.dumpState = some inst.state := by
  rcases (getInstance_some h).2 with ⟨ds, p, _, hr⟩ | ⟨_, _, rfl⟩
  · cases ds with
    | none => cases hr
    | some s =>
      rw [restore_eq] at hr
      cases hr
      rfl
  · rfl

theorem nodeOK_skip (st : NodeSt) (b : Bool) (h : NodeOK st) : NodeOK { st with skipVerify := b } := h

theorem reinitStep_safe (skip0 : Bool) (now : Time) (payloadOf : Tasks.Msg → Bytes) (acc : NodeSt × List NOp) (im : InnerMsg)
    (h : NodeOK acc.1) :
    (processMessage { acc.1 with skipVerify := skip0 || im.patch } im.msg now payloadOf).out ≠ .panic ∧
    NodeOK (reinitStep skip0 now payloadOf acc im).1 := by
  have hok : NodeOK { acc.1 with skipVerify := skip0 || im.patch } := h
  refine ⟨node_never_panics _ hok im.msg now payloadOf, ?_⟩
  exact nodeOK_of_roundsOK hok (processMessage_roundsOK _ hok im.msg now payloadOf)

theorem nodeOK_loop (skip0 : Bool) (now : Time) (payloadOf : Tasks.Msg → Bytes) (l : List InnerMsg) (acc : NodeSt × List NOp)
    (h : NodeOK acc.1) : NodeOK (l.foldl (reinitStep skip0 now payloadOf) acc).1 := by
  induction l generalizing acc with
  | nil => exact h
  | cons x t ih => exact ih _ (reinitStep_safe skip0 now payloadOf acc x h).2

theorem nodeOK_saveKeys (R : String) (st2 st3 : NodeSt) (inst : Instance) (keys : List (String × Bytes)) (h2 : NodeOK st2)
    (hg : getInstance st2 R = some (st3, inst)) : NodeOK (saveFSM st2 R (inst.dumpState, { inst.payload with pubKeys := keys })) := by
  intro r ds p i hlk hres
  have hgood := good_getInstance st2 st3 R inst h2 hg
  rw [lookupS_saveFSM] at hlk
  split at hlk
  · -- the stored dump loads as the round with the new keys
    cases hlk
    have hd := getInstance_dump _ _ _ _ hg
    rw [hd, restore_eq] at hres
    cases hres
    rw [← owner_of_pool hgood.1.1, ← hd]
    exact good_pubKeys inst _ hgood
  · exact h2 r ds p i hlk hres

theorem nodeOK_reinit (st : NodeSt) (h : NodeOK st) (req : ReinitReq) (now : Time) (payloadOf : Tasks.Msg → Bytes) :
    NodeOK (reinitDKG st req now payloadOf).st :=
  reinitDKG_inv (Q := NodeOK) st req now payloadOf nodeOK_skip
    (fun st im _ h => nodeOK_of_roundsOK h (processMessage_roundsOK st h im.msg now payloadOf)) (fun _ _ h => h)
    (nodeOK_saveKeys _) h

/-- what a node consumes: board messages, among them re-initialisation requests -/
inductive Item where
  | msg (m : NMsg) (now : Time)
  | reinit (req : ReinitReq) (now : Time)

def consumeItem (payloadOf : Tasks.Msg → Bytes) (st : NodeSt) : Item → NodeSt
  | .msg m now => (processMessageTop st m now payloadOf).st
  | .reinit req now => (reinitDKG st req now payloadOf).st

def consumeAll (payloadOf : Tasks.Msg → Bytes) (st : NodeSt) (items : List Item) : NodeSt := items.foldl (consumeItem payloadOf) st

theorem nodeOK_consumeItem (payloadOf : Tasks.Msg → Bytes) (st : NodeSt) (h : NodeOK st) (it : Item) :
    NodeOK (consumeItem payloadOf st it) := by
  cases it with
  | msg m now => exact nodeOK_step st h m now payloadOf
  | reinit req now => exact nodeOK_reinit st h req now payloadOf

theorem nodeOK_consumeAll (payloadOf : Tasks.Msg → Bytes) (st : NodeSt) (h : NodeOK st) (items : List Item) :
    NodeOK (consumeAll payloadOf st items) :=
  List.foldlRecOn (motive := NodeOK) items _ h fun st h it _ => nodeOK_consumeItem payloadOf st h it

/-- **node_never_panics_run, re-initialisations included.** From an empty state database, after ANY sequence of board messages
and re-initialisation requests (any dumps: genuine, forged, of other rounds, with junk), handling a further message
does not panic, and neither does any step of a further re-initialisation. -/
theorem node_never_panics_run_reinit (self : String) (key : Bytes) (skip : Bool) (payloadOf : Tasks.Msg → Bytes) (items : List Item) :
    let st := consumeAll payloadOf { self := self, selfKey := key, skipVerify := skip } items
    (∀ m now, (processMessageTop st m now payloadOf).out ≠ .panic) ∧
    (∀ (req : ReinitReq) now pre im post,
      (beforeSigning req.inner).filter (replayed st.self req.dkgId) = pre ++ im :: post →
      (processMessage { (pre.foldl (reinitStep st.skipVerify now payloadOf) (st, [])).1 with skipVerify := st.skipVerify || im.patch }
        im.msg now payloadOf).out ≠ .panic) := by
  intro st
  have hok : NodeOK st := nodeOK_consumeAll payloadOf _ (nodeOK_empty self key skip) items
  exact ⟨fun m now => top_never_panics st hok m now payloadOf,
    fun _ now pre im _ _ => (reinitStep_safe _ now payloadOf _ im (nodeOK_loop _ now payloadOf pre (st, []) hok)).1⟩

end Dc4bcVerif.Props.C18Reinit
