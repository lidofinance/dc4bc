/-
  C10 — a participant's contribution can only come from that participant, round and step.
-/
import Dc4bcVerif.Props.C09

namespace Dc4bcVerif.Props.C10
open Dc4bcVerif.Gen Dc4bcVerif.Model Dc4bcVerif.Model.Node

/-- `bound` says: the request names no participant, or verification is off, or the participant id
registered in this round for the sender of the message is the one the request names -/
theorem bound_iff (st : NodeSt) (inst : Instance) (m : NMsg) (arg : Arg) :
    bound st inst m arg = true ↔
      (participantIdOf arg = none ∨ st.skipVerify = true ∨
        ∃ pid, participantIdOf arg = some pid ∧ m.sender ≠ "" ∧ lookupS inst.payload.ids m.sender = some pid) := by
  fun_cases bound st inst m arg
  case case1 h => exact iff_of_true rfl (.inl h)
  case case2 h => exact iff_of_true rfl (.inr (.inl h))
  case case3 pid hp hs he =>
    -- no sender
    refine iff_of_false nofun fun h => ?_
    rcases h with h | h | ⟨_, _, hne, _⟩
    · rw [hp] at h; cases h
    · exact hs h
    · exact hne (beq_iff_eq.mp he)
  case case4 pid hp hs he sid hl =>
    -- the sender is registered: the registered id decides
    refine ⟨fun h => .inr (.inr ⟨pid, hp, fun e => he (beq_iff_eq.mpr e), by rw [hl, beq_iff_eq.mp h]⟩), fun h => ?_⟩
    rcases h with h | h | ⟨p, hp', _, hl'⟩
    · rw [hp] at h; cases h
    · exact absurd h hs
    · rw [hp] at hp'; rw [hl] at hl'
      cases hp'; cases hl'
      exact beq_self_eq_true _
  case case5 pid hp hs he hl =>
    -- the sender is not registered
    refine iff_of_false nofun fun h => ?_
    rcases h with h | h | ⟨_, _, _, hl'⟩
    · rw [hp] at h; cases h
    · exact hs h
    · rw [hl] at hl'; cases hl'

/-- **only_own_key**, dispatch level: a request that names participant `P` but arrives from a sender
registered under another id — whatever its signature — never reaches the state machine: it is
rejected and nothing changes. -/
theorem foreign_participant_rejected (st : NodeSt) (inst : Instance) (m : NMsg) (now : Time)
    (payloadOf : Tasks.Msg → Bytes) (arg : Arg) (pid : Int)
    (harg : m.arg = some arg) (hpid : participantIdOf arg = some pid) (hskip : st.skipVerify = false)
    (hother : lookupS inst.payload.ids m.sender ≠ some pid) :
    dispatch st inst m now payloadOf = rejectWith st := by
  unfold dispatch
  cases Ev.all.find? (fun e => e.name == m.event) with
  | none => rfl
  | some ev =>
    simp only
    split
    · rfl
    · have hb : bound st inst m arg = false := by
        rw [Bool.eq_false_iff]
        intro hbt
        rw [bound_iff] at hbt
        rcases hbt with h | h | ⟨p', hp', _, hl⟩
        · rw [hpid] at h; cases h
        · rw [hskip] at h; cases h
        · rw [hpid] at hp'; cases hp'; exact hother hl
      simp [harg, hb]

/-- every request type that carries a participant id is covered by the check (the table is read off
`FSMRequestFromMessage` on every run) -/
theorem all_contribution_requests_name_a_participant (a : Arg) :
    participantIdOf a = none ↔ (∃ p t c, a = .sigInit p t c) ∨ (∃ c, a = .default c) ∨ a = .other := by
  cases a <;> simp [participantIdOf]

/-- **only_own_key**, message level: with verification on, whenever a protocol event naming participant
`P` is applied to a round, the message was signed with the key registered for its sender AND that
sender is registered as participant `P`. -/
theorem applied_implies_own_key (st : NodeSt) (inst : Instance) (m : NMsg) (now : Time)
    (payloadOf : Tasks.Msg → Bytes) (arg : Arg) (pid : Int)
    (harg : m.arg = some arg) (hpid : participantIdOf arg = some pid) (hskip : st.skipVerify = false)
    (hver : verifyMessage st inst m = .ok)
    (happlied : dispatch st inst m now payloadOf ≠ rejectWith st) :
    C09.signedByRegisteredSender inst m ∧ lookupS inst.payload.ids m.sender = some pid := by
  constructor
  · rcases (C09.verify_ok_iff st inst m).mp hver with h | h
    · rw [hskip] at h; cases h
    · exact h
  · exact Classical.byContradiction
      (fun hne => happlied (foreign_participant_rejected st inst m now payloadOf arg pid harg hpid hskip hne))

/-- **bound_to_round_and_step — full statement** (what the property asks): a signed `(data, signature)`
accepted under one `(round, event)` is not accepted under a different one. -/
def BoundToRoundAndStep : Prop :=
  ∀ (st : NodeSt) (m m' : NMsg) (now : Time) (payloadOf : Tasks.Msg → Bytes),
    st.skipVerify = false →
    m'.sender = m.sender → m'.arg = m.arg → m'.validKeys = m.validKeys →
    (m'.round ≠ m.round ∨ m'.event ≠ m.event) →
    (processMessage st m now payloadOf).out = .ok →
    (processMessage (processMessage st m now payloadOf).st m' now payloadOf).out ≠ .ok ∨
    (processMessage (processMessage st m now payloadOf).st m' now payloadOf).st = (processMessage st m now payloadOf).st

/- `BoundToRoundAndStep` is FALSE of the code: the signature covers `Data` only (`Message.Bytes`), the
event name and the round id are outside the signed bytes, and a confirm and a decline share one
request type. Recorded as known finding C10-envelope-replay (known_findings.json); the concrete
replay (a confirmation re-posted as a decline is accepted and cancels the round) is produced on
the real node by `nodediff` on every run. What does hold: -/

/-- **bound_partial**: a replay under another event can only be applied if that event decodes the same
bytes into a request of the type its callback accepts (otherwise the callback's type assertion fails),
the sender is registered in the target round under the participant id inside the payload, and the
target round's state has a transition for that event. In particular a replay into a round where the
sender is not registered under that id is rejected. -/
theorem bound_partial (st : NodeSt) (inst : Instance) (m : NMsg) (now : Time) (payloadOf : Tasks.Msg → Bytes)
    (arg : Arg) (pid : Int) (harg : m.arg = some arg) (hpid : participantIdOf arg = some pid)
    (hskip : st.skipVerify = false) (hunreg : lookupS inst.payload.ids m.sender ≠ some pid) :
    (dispatch st inst m now payloadOf).out = .reject ∧ (dispatch st inst m now payloadOf).st = st := by
  rw [foreign_participant_rejected st inst m now payloadOf arg pid harg hpid hskip hunreg]
  exact ⟨rfl, rfl⟩

end Dc4bcVerif.Props.C10
