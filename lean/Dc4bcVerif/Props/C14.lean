/-
  C14 — API requests concurrent with polling behave as if executed one at a time.

  * `interleaving_eq_serial`: if every step of one activity commutes with every step of the other, EVERY
    interleaving of the two (any number of pre-emptions) ends in the state of the serial order — for any
    state type and any step functions.
  * `put_del_commute` / `put_put_commute` / `del_del_commute`: the pool operations of the poller (put a new
    operation) and of an API request (retire an answered one) commute, as ATOMIC steps; `pool_interleaving_serial`
    instantiates the first theorem: no newly created operation is lost, no retired one comes back.
  * `repo_rmw_locked`: the repository's read-modify-write methods hold the repository mutex for their whole body
    (generated from the source on every run), which is what makes them the atomic steps above.
  * `unlocked_rmw_loses_put`: the pinned tree's unlocked sequences have an interleaving, with ONE pre-emption, after
    which a newly created operation is gone although both serial orders keep it (the defect behind fix 902b054).
  * `reset_during_tick_skips_log`: KNOWN FINDING, not fixed: a state reset that lands inside a poll tick leaves the
    new database with an advanced offset: the messages before it are never replayed (neither serial order does that).
  Not modelled: goroutine scheduling and memory model (atomic steps are assumed to be what the locks make them),
  the round-state blob written by an API request finishing a re-initialisation while the poller saves another round.
-/
import Dc4bcVerif.Model.Sched
import Dc4bcVerif.Gen.Locks

namespace Dc4bcVerif.Props.C14
open Dc4bcVerif.Model.Sched

theorem runSteps_cons {S : Type} (f : S → S) (l : List (S → S)) (s : S) : runSteps (f :: l) s = runSteps l (f s) := rfl

theorem commute_past {S : Type} (g : S → S) (l : List (S → S)) (h : ∀ f ∈ l, ∀ s, f (g s) = g (f s)) (s : S) :
    runSteps l (g s) = g (runSteps l s) :=
  List.foldl_rel (r := fun x y => x = g y) rfl fun f hf _ y e => e ▸ h f hf y

theorem runSteps_append {S : Type} (l1 l2 : List (S → S)) (s : S) : runSteps (l1 ++ l2) s = runSteps l2 (runSteps l1 s) := by
  unfold runSteps; exact List.foldl_append

/-- **interleaving_eq_serial.** If each step of activity 1 commutes with each step of activity 2, then every
interleaving of the two step sequences — any number of pre-emptions, at any points — ends in exactly the state
reached by running activity 1 to its end and then activity 2 (and, symmetrically, 2 then 1). -/
theorem interleaving_eq_serial {S : Type} (l1 l2 l : List (S → S)) (hint : Interleaves l1 l2 l)
    (hc : ∀ f ∈ l1, ∀ g ∈ l2, ∀ s, f (g s) = g (f s)) (s : S) :
    runSteps l s = runSteps l2 (runSteps l1 s) := by
  induction hint generalizing s with
  | nil => rfl
  | left _ ih =>
    rw [runSteps_cons, runSteps_cons]
    exact ih (fun f hf g hg => hc f (List.mem_cons_of_mem _ hf) g hg) _
  | @right b l1 l2 l _ ih =>
    rw [runSteps_cons, runSteps_cons]
    rw [ih (fun f hf g hg => hc f hf g (List.mem_cons_of_mem _ hg)) (b s)]
    -- move b behind l1
    congr 1
    exact commute_past b l1 (fun f hf s' => hc f hf b (List.mem_cons_self ..) s') s

theorem interleaves_symm {α : Type} {l1 l2 l : List α} (h : Interleaves l1 l2 l) : Interleaves l2 l1 l := by
  induction h with
  | nil => exact .nil
  | left _ ih => exact .right ih
  | right _ ih => exact .left ih

theorem interleaving_eq_serial' {S : Type} (l1 l2 l : List (S → S)) (hint : Interleaves l1 l2 l)
    (hc : ∀ f ∈ l1, ∀ g ∈ l2, ∀ s, f (g s) = g (f s)) (s : S) :
    runSteps l s = runSteps l1 (runSteps l2 s) :=
  interleaving_eq_serial l2 l1 l (interleaves_symm hint) (fun g hg f hf s => (hc f hf g hg s).symm) s

variable {O : Type} [DecidableEq O]

theorem put_del_commute (a b : O) (hab : a ≠ b) (p : Pool O) : put b (del a p) = del a (put b p) := by
  -- `a ≠ b`: the guard of `put b` reads the same before and after `del a`, and `del a` does not look at what `put b` writes
  have hba : b ≠ a := hab.symm
  unfold put del
  by_cases ha : a ∈ p.retired <;> by_cases hb : b ∈ p.pending ∨ b ∈ p.retired
  · simp [ha, hb]
  · simp [ha, hb]
  · rcases hb with hb | hb <;> simp [ha, hb, hba]
  · rw [not_or] at hb
    simp [ha, hb, hba, List.filter_append]

omit [DecidableEq O] in
theorem pool_ext (p q : Pool O) (h1 : p.pending = q.pending) (h2 : p.retired = q.retired) : p = q := by
  cases p; cases q; simp_all

def WF (p : Pool O) : Prop := ∀ x, x ∈ p.retired → x ∉ p.pending

theorem put_wf (b : O) (p : Pool O) (h : WF p) : WF (put b p) := by
  unfold put; split
  · exact h
  · next hb =>
    intro x hx
    simp only [List.mem_append, List.mem_singleton, not_or]
    exact ⟨h x hx, fun e => hb (Or.inr (e ▸ hx))⟩

theorem del_wf (a : O) (p : Pool O) (h : WF p) : WF (del a p) := by
  unfold del; split
  · exact h
  · intro x hx
    simp only [List.mem_append, List.mem_singleton] at hx
    simp only [List.mem_filter, decide_eq_true_eq, not_and]
    rcases hx with hx | hx
    · exact fun hp => absurd hp (h x hx)
    · exact fun _ hne => hne hx

/-- **no_lost_no_resurrected.** After the poller has created `b` and the API request has retired `a ≠ b` — in either
order, and hence (by `interleaving_eq_serial`) in any interleaving of atomic steps — `b` is pending (unless it had been
retired before) and `a` is retired and not pending. -/
theorem no_lost_no_resurrected (a b : O) (hab : a ≠ b) (p : Pool O) (hwf : WF p) (hb : b ∉ p.retired) :
    b ∈ (del a (put b p)).pending ∧ a ∈ (del a (put b p)).retired ∧ a ∉ (del a (put b p)).pending := by
  have hput : b ∈ (put b p).pending := by
    unfold put; split
    · next h => exact h.resolve_right hb
    · simp
  have hret : a ∈ (del a (put b p)).retired := by unfold del; split <;> simp [*]
  refine ⟨?_, hret, del_wf a _ (put_wf b p hwf) a hret⟩
  unfold del; split
  · exact hput
  · simp [hput, Ne.symm hab]

/-- **pool_interleaving_serial.** Any interleaving of a poll tick that creates operations `bs` with an API activity that
retires operations `as` (all different from the `bs`), as atomic steps, ends in the pool of the serial order. -/
theorem pool_interleaving_serial (as bs : List O) (hdisj : ∀ a ∈ as, ∀ b ∈ bs, a ≠ b) (l : List (Pool O → Pool O))
    (hint : Interleaves (as.map del) (bs.map put) l) (p : Pool O) :
    runSteps l p = runSteps (bs.map put) (runSteps (as.map del) p) := by
  apply interleaving_eq_serial _ _ _ hint
  intro f hf g hg s
  simp only [List.mem_map] at hf hg
  obtain ⟨a, ha, rfl⟩ := hf
  obtain ⟨b, hb, rfl⟩ := hg
  exact (put_del_commute a b (hdisj a ha b hb) s).symm

def lockedMethod (name : String) : Bool :=
  match Gen.Locks.repoMethods.find? (fun e => e.1 == name) with
  | some e => e.2.1
  | none => false

/-- **repo_rmw_locked.** `PutOperation`, `DeleteOperation` and `GetOperations` hold the repository mutex for their whole
body, and none of them calls a locking method of the repository while holding it (no self-deadlock). Generated from
client/repositories/operation/operation.go on every run. -/
theorem repo_rmw_locked :
    lockedMethod "PutOperation" = true ∧ lockedMethod "DeleteOperation" = true ∧ lockedMethod "GetOperations" = true ∧
    (Gen.Locks.repoMethods.all (fun e => !e.2.1 || e.2.2.all (fun c =>
        !(Gen.Locks.repoMethods.any (fun e' => e'.2.1 && ("r." ++ e'.1) == c))))) = true := by
  decide +kernel

/-- **unlocked_rmw_loses_put.** The pinned tree's unlocked sequences: the API request retires operation `1` while the
poller creates operation `2`. Schedule with a single pre-emption: the API request runs up to its last read, the poller's
`PutOperation` runs completely, the API request writes back its stale copy. Operation `2` is gone; both serial orders
keep it. -/
theorem unlocked_rmw_loses_put :
    let r0 : Raw Nat := { ops := [1], deleted := [] }
    let api := (delSteps (1 : Nat)).map (fun s => (false, s))
    let poll := (putSteps (2 : Nat)).map (fun s => (true, s))
    let bad := api.take 4 ++ poll ++ api.drop 4
    (urun r0 {} {} bad).visible = [] ∧
    (urun r0 {} {} (api ++ poll)).visible = [2] ∧ (urun r0 {} {} (poll ++ api)).visible = [2] := by
  decide

/-- **reset_during_tick_skips_log.** The poll tick has read messages 23 and 24 from the board; a state reset lands
between handling the first and saving its offset. The tick goes on: the new, empty database ends with offset 25
and two stray applications; messages 0..22 are never replayed. Neither serial order gives that: reset-then-tick
replays from 0, tick-then-reset leaves an empty database at offset 0. (C14-reset-during-poll, not fixed.) -/
theorem reset_during_tick_skips_log :
    let s0 : RState := { applied := List.range 23, offset := 23 }
    let tick := [RStep.apply 23, .save 24, .apply 24, .save 25]
    rrun s0 ([RStep.apply 23, .reset, .save 24, .apply 24, .save 25]) = { applied := [24], offset := 25 } ∧
    rrun s0 (tick ++ [.reset]) = { applied := [], offset := 0 } ∧
    (rrun s0 ([RStep.reset] ++ [.apply 0, .save 1])).offset = 1 := by
  decide

end Dc4bcVerif.Props.C14
