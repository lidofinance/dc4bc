/-
  C08 — the reader's position. A node reads the log through its poll loop: every tick asks the storage for the lines from
  its saved position on, is handed those that are not on an ignore list, applies each and saves, after each, "the offset of
  this line plus one" as its new position. The log grows between ticks; ignore lists (a reset with `--messages`) make the
  storage leave lines out. Lines are identified here with their index in the file, which is the `offset` field the writer
  put into them (`Props/C16.lean`: `sends` assigns offset = number of lines before).

  For EVERY ignore predicate `kept`, every start position `p` and every sequence `ns` of file lengths seen by successive
  ticks (growing or not), the ticks together are one tick over the longest file seen (`polls_eq_tick`); hence
  * `polls_handed`: the lines handed to the node, over all ticks, are exactly the kept lines between `p` and the longest
    length seen, in file order;
  * `each_line_once`: strictly increasing — no line is handed twice (there is no restart and no reset in `polls`);
  * `nothing_kept_is_missed`, `ignored_never_handed`;
  * `position_after`: the saved position never passes the end of what was seen and nothing kept lies between it and that end.
  * `counting_reader_repeats`: the position must be derived from the LINE (its offset + 1). A reader that counts the lines it
    was handed (`pos + 1` per line) falls behind by one for every ignored line it passes and is handed lines again: the
    hypothesis-free counterexample is two ticks over a two-line file whose first line is ignored.

  Tie: `Gen/Effects.lean` (tick calls ProcessMessage then SaveOffset) and `Gen/MoreFacts.lean` `tickSaves` (the argument of that
  SaveOffset call is `message.Offset + 1`), regenerated on every run and fixed by `tick_saves_line_offset_plus_one`; nodediff drives
  real nodes through their own tick with ignore lists and reports a line handed twice (`C08 each_line_once`).
-/
import Dc4bcVerif.Gen.MoreFacts

namespace Dc4bcVerif.Props.C08Poll

/-- the kept lines with index in `[q, n)`, in order -/
def R (kept : Nat → Bool) (q n : Nat) : List Nat := (List.range' q (n - q)).filter kept

/-- one tick at position `q` when the file has `n` lines: (lines handed, position saved) -/
def tick (kept : Nat → Bool) (q n : Nat) : List Nat × Nat :=
  (R kept q n, match (R kept q n).getLast? with | some i => i + 1 | none => q)

/-- successive ticks; `ns`: the length of the file at each -/
def polls (kept : Nat → Bool) : Nat → List Nat → List Nat × Nat
  | q, [] => ([], q)
  | q, n :: ns => ((tick kept q n).1 ++ (polls kept (tick kept q n).2 ns).1, (polls kept (tick kept q n).2 ns).2)

def maxl : List Nat → Nat
  | [] => 0
  | n :: ns => max n (maxl ns)

variable (kept : Nat → Bool)

theorem mem_R (q n i : Nat) : i ∈ R kept q n ↔ q ≤ i ∧ i < n ∧ kept i = true := by
  simp only [R, List.mem_filter, List.mem_range'_1]
  constructor
  · rintro ⟨⟨h1, h2⟩, h3⟩; exact ⟨h1, by omega, h3⟩
  · rintro ⟨h1, h2, h3⟩; exact ⟨⟨h1, by omega⟩, h3⟩

theorem R_empty_of_le (q n : Nat) (h : n ≤ q) : R kept q n = [] := by
  simp [R, Nat.sub_eq_zero_of_le h]

theorem R_split (q m n : Nat) (h1 : q ≤ m) (h2 : m ≤ n) : R kept q n = R kept q m ++ R kept m n := by
  unfold R
  rw [← Nat.sub_add_sub_cancel h2 h1, Nat.add_comm, ← List.range'_append_1, List.filter_append, Nat.add_sub_cancel' h1]

theorem R_max_of_empty (q n x : Nat) (h : R kept q n = []) : R kept q (max n x) = R kept q x := by
  by_cases hx : n ≤ x
  · rw [Nat.max_eq_right hx]
  · by_cases hq : q ≤ x
    · rw [Nat.max_eq_left (by omega), h]
      rw [R_split kept q x n hq (by omega)] at h
      exact (List.append_eq_nil_iff.mp h).1.symm
    · rw [Nat.max_eq_left (by omega), h, R_empty_of_le kept q x (by omega)]

theorem last_of_R (q n i : Nat) (h : (R kept q n).getLast? = some i) :
    q ≤ i ∧ i < n ∧ R kept q (i + 1) = R kept q n ∧ R kept (i + 1) n = [] := by
  obtain ⟨h1, h2, _⟩ := (mem_R kept q n i).mp (List.mem_of_getLast? h)
  have hs := R_split kept q (i + 1) n (Nat.le_succ_of_le h1) h2
  have hempty : R kept (i + 1) n = [] := by
    rw [hs, List.getLast?_append] at h
    cases hl : (R kept (i + 1) n).getLast? with
    | none => exact List.getLast?_eq_none_iff.mp hl
    | some j =>
      -- the last line would be `j ≥ i + 1`, not `i`
      rw [hl] at h
      have := ((mem_R kept (i + 1) n j).mp (List.mem_of_getLast? hl)).1
      cases h
      exact absurd this (Nat.lt_irrefl _)
  refine ⟨h1, h2, ?_, hempty⟩
  rw [hs, hempty, List.append_nil]

theorem tick_pos (q n : Nat) : q ≤ (tick kept q n).2 ∧ R kept (tick kept q n).2 n = [] := by
  unfold tick
  cases h : (R kept q n).getLast? with
  | none => exact ⟨Nat.le_refl q, List.getLast?_eq_none_iff.mp h⟩
  | some i => exact ⟨Nat.le_succ_of_le (last_of_R kept q n i h).1, (last_of_R kept q n i h).2.2.2⟩

/-- two ticks in a row are one tick over the longer file -/
theorem tick_tick (q n n' : Nat) :
    ((tick kept q n).1 ++ (tick kept (tick kept q n).2 n').1, (tick kept (tick kept q n).2 n').2) = tick kept q (max n n') := by
  have hl : R kept q (max n n') = R kept q n ++ R kept (tick kept q n).2 n' := by
    unfold tick
    cases h : (R kept q n).getLast? with
    | none =>
      have h0 := List.getLast?_eq_none_iff.mp h
      rw [R_max_of_empty kept q n n' h0, h0, List.nil_append]
    | some i =>
      obtain ⟨h1, h2, h3, h4⟩ := last_of_R kept q n i h
      rw [R_split kept q (i + 1) (max n n') (Nat.le_succ_of_le h1) (Nat.le_trans h2 (Nat.le_max_left ..)), h3,
        R_max_of_empty kept (i + 1) n n' h4]
  -- the saved position: one past the last line handed by the second tick if there is one, else what the first tick saved
  unfold tick at hl ⊢
  simp only [hl, List.getLast?_append]
  cases (R kept (match (R kept q n).getLast? with | some i => i + 1 | none => q) n').getLast? <;> rfl

/-- **the reader's batching does not matter**: any sequence of ticks hands over what a single tick over the longest file
seen hands over, and saves the same position -/
theorem polls_eq_tick (q : Nat) (ns : List Nat) : polls kept q ns = tick kept q (maxl ns) := by
  induction ns generalizing q with
  | nil => simp [polls, maxl, tick, R_empty_of_le kept q 0 (Nat.zero_le q)]
  | cons n ns ih => rw [polls, ih, maxl, tick_tick]

/-- **polls_handed.** What the node is handed over all ticks: the kept lines from its start position to the longest file it
saw, in file order. -/
theorem polls_handed (p : Nat) (ns : List Nat) : (polls kept p ns).1 = R kept p (max p (maxl ns)) := by
  rw [polls_eq_tick, R_max_of_empty kept p p (maxl ns) (R_empty_of_le kept p p (Nat.le_refl p))]
  rfl

theorem each_line_once (p : Nat) (ns : List Nat) : ((polls kept p ns).1).Pairwise (· < ·) := by
  rw [polls_handed]
  exact List.Pairwise.filter _ List.pairwise_lt_range'

theorem nothing_kept_is_missed (p : Nat) (ns : List Nat) (i : Nat) (h1 : p ≤ i) (h2 : i < maxl ns) (hk : kept i = true) :
    i ∈ (polls kept p ns).1 := by
  rw [polls_eq_tick]
  exact (mem_R kept _ _ i).mpr ⟨h1, h2, hk⟩

theorem ignored_never_handed (p : Nat) (ns : List Nat) (i : Nat) (h : i ∈ (polls kept p ns).1) : kept i = true := by
  rw [polls_eq_tick] at h
  exact ((mem_R kept _ _ i).mp h).2.2

/-- **position_after.** The saved position has not moved back, and no kept line lies between it and the end of what was seen. -/
theorem position_after (p : Nat) (ns : List Nat) :
    p ≤ (polls kept p ns).2 ∧ ∀ i, (polls kept p ns).2 ≤ i → i < max p (maxl ns) → kept i = false := by
  rw [polls_eq_tick]
  obtain ⟨h2, h3⟩ := tick_pos kept p (maxl ns)
  refine ⟨h2, fun i hi hlt => Bool.eq_false_iff.mpr fun hk => ?_⟩
  have : i ∈ R kept (tick kept p (maxl ns)).2 (maxl ns) := (mem_R kept _ _ i).mpr ⟨hi, by omega, hk⟩
  rw [h3] at this
  exact absurd this List.not_mem_nil

/-- the tick that saves "position + number of lines handed" -/
def tickCount (kept : Nat → Bool) (q n : Nat) : List Nat × Nat := (R kept q n, q + (R kept q n).length)

def pollsCount (kept : Nat → Bool) : Nat → List Nat → List Nat × Nat
  | q, [] => ([], q)
  | q, n :: ns => ((tickCount kept q n).1 ++ (pollsCount kept (tickCount kept q n).2 ns).1, (pollsCount kept (tickCount kept q n).2 ns).2)

/-- **counting_reader_repeats.** Line 0 ignored, two ticks over the two-line file: line 1 is handed twice, and the reader's
position after the first tick is 1, not 2. -/
theorem counting_reader_repeats :
    (pollsCount (fun i => i != 0) 0 [2, 2]).1 = [1, 1] ∧ (tickCount (fun i => i != 0) 0 2).2 = 1
      ∧ (polls (fun i => i != 0) 0 [2, 2]) = ([1], 2) := by decide

/-- without ignored lines the two readers agree (why ordinary runs do not show the difference) -/
example : pollsCount (fun _ => true) 0 [2, 3, 3, 5] = polls (fun _ => true) 0 [2, 3, 3, 5] := by decide

/-- the source: what the tick saves after a line is that line's offset plus one -/
theorem tick_saves_line_offset_plus_one : Dc4bcVerif.Gen.MoreFacts.tickSaves = ["message.Offset + 1"] := rfl

end Dc4bcVerif.Props.C08Poll
