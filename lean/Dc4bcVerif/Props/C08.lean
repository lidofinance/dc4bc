/-
  C08 — a round's state is a deterministic function of the board log.
-/
import Dc4bcVerif.Lemmas.NodeLocal

namespace Dc4bcVerif.Props.C08
open Dc4bcVerif.Gen Dc4bcVerif.Model Dc4bcVerif.Model.Node Dc4bcVerif.Lemmas.NodeLocal

/-- the node as a consumer of a log: a fold of `processMessageTop` (with the wall-clock reading made an
explicit input of every step) -/
def consume (payloadOf : Tasks.Msg → Bytes) (st : NodeSt) (log : List (NMsg × Time)) : NodeSt :=
  log.foldl (fun s mt => (processMessageTop s mt.1 mt.2 payloadOf).st) st

/-- **batching_irrelevant**: however consumption is split into polls / restarts, the state after a log
is the state after its parts in sequence -/
theorem batching_irrelevant (payloadOf : Tasks.Msg → Bytes) (st : NodeSt) (l1 l2 : List (NMsg × Time)) :
    consume payloadOf st (l1 ++ l2) = consume payloadOf (consume payloadOf st l1) l2 := by
  unfold consume; exact List.foldl_append

/-- **replay_eq_live / nodes_agree**: two nodes (or one node and its replayed self) that start from the
same state and consume the same messages are in the same state -/
theorem replay_eq_live (payloadOf : Tasks.Msg → Bytes) (st st' : NodeSt) (log : List (NMsg × Time)) (h : st = st') :
    consume payloadOf st log = consume payloadOf st' log := by rw [h]

theorem lookupS_assocSet_ne {β : Type} (l : List (String × β)) (k k' : String) (v : β) (h : k' ≠ k) :
    lookupS (assocSet l k v) k' = lookupS l k' :=
  Node.lookupS_assocSet_ne l k k' v h

theorem saveFSM_other (st : NodeSt) (round r : String) (d : DumpV) (h : r ≠ round) :
    lookupS (saveFSM st round d).rounds r = lookupS st.rounds r :=
  lookupS_assocSet_ne _ _ _ _ h

theorem saveFSM_sigs (st : NodeSt) (round : String) (d : DumpV) : (saveFSM st round d).sigs = st.sigs := rfl
theorem saveFSM_ops (st : NodeSt) (round : String) (d : DumpV) : (saveFSM st round d).ops = st.ops := rfl

/-- what a step may touch: only the dump of round `round` -/
def SameElsewhere (round : String) (a b : NodeSt) : Prop :=
  (∀ r, r ≠ round → lookupS b.rounds r = lookupS a.rounds r) ∧
  (∀ r, r ≠ round → lookupS b.sigs r = lookupS a.sigs r) ∧
  b.skipVerify = a.skipVerify

/-- **round_noninterference.** Handling a message of round `R` leaves the dump and the signature store
of every other round exactly as they were — whatever the message is (genuine, rejected, duplicated,
junk). Hence the state a node holds for a round depends only on the sub-sequence of messages
carrying that round's identifier. (Re-initialisation messages are outside this model; see C20.) -/
theorem round_noninterference (st : NodeSt) (m : NMsg) (now : Time) (payloadOf : Tasks.Msg → Bytes) :
    SameElsewhere m.round st (processMessage st m now payloadOf).st :=
  (processMessage_step m (ViewEq.refl _ st) now payloadOf).elsewhere

/-- the same for the whole of `ProcessMessage` (the operation pool is not part of a round's state) -/
theorem round_noninterference_top (st : NodeSt) (m : NMsg) (now : Time) (payloadOf : Tasks.Msg → Bytes) :
    SameElsewhere m.round st (processMessageTop st m now payloadOf).st := by
  rw [processMessageTop_eq]
  exact round_noninterference st m now payloadOf

def roundLog (R : String) (log : List (NMsg × Time)) : List (NMsg × Time) := log.filter (fun mt => mt.1.round == R)

/-- **round_state_function_of_round_log.** Two nodes whose views of round `R` agree (dump of `R`,
signature store of `R`, verification switch) — whatever else they hold — and of which one consumes a
log and the other only the messages of that log that carry `R`'s identifier, end with the same view of
`R`. For every log: genuine, rejected, duplicated, junk messages, any number of other rounds interleaved. -/
theorem round_state_function_of_round_log (payloadOf : Tasks.Msg → Bytes) (R : String) (log : List (NMsg × Time)) :
    ∀ a b : NodeSt, ViewEq R a b → ViewEq R (consume payloadOf a log) (consume payloadOf b (roundLog R log)) := by
  induction log with
  | nil => intro a b h; exact h
  | cons mt rest ih =>
    intro a b h
    rw [roundLog, List.filter_cons]
    by_cases hr : mt.1.round = R
    · rw [if_pos (beq_iff_eq.mpr hr)]
      subst hr
      exact ih _ _ (viewEq_processMessageTop mt.1 h mt.2 payloadOf)
    · rw [if_neg fun hb => hr (beq_iff_eq.mp hb)]
      have h' := round_noninterference_top a mt.1 mt.2 payloadOf
      exact ih _ _ (ViewEq.trans ⟨h'.1 R (Ne.symm hr), h'.2.1 R (Ne.symm hr), h'.2.2⟩ h)

/-- in particular: the state a node holds for `R` after a log is the state it holds after the
sub-sequence of `R`'s messages, and two nodes that consumed logs with the same sub-sequence for `R` agree on `R` -/
theorem round_view_of_sublog (payloadOf : Tasks.Msg → Bytes) (R : String) (st : NodeSt) (log : List (NMsg × Time)) :
    ViewEq R (consume payloadOf st log) (consume payloadOf st (roundLog R log)) :=
  round_state_function_of_round_log payloadOf R log st st (ViewEq.refl R st)

theorem nodes_agree_on_round (payloadOf : Tasks.Msg → Bytes) (R : String) (a b : NodeSt) (h : ViewEq R a b)
    (log1 log2 : List (NMsg × Time)) (hsub : roundLog R log1 = roundLog R log2) :
    ViewEq R (consume payloadOf a log1) (consume payloadOf b log2) := by
  have h1 := round_state_function_of_round_log payloadOf R log1 a b h
  have h2 := round_state_function_of_round_log payloadOf R log2 b b (ViewEq.refl R b)
  rw [hsub] at h1
  exact h1.trans h2.symm

/-- `ResetFSMState`: a new empty state database (same identity, same switches) -/
theorem reset_replay_eq_fresh (payloadOf : Tasks.Msg → Bytes) (st : NodeSt) (log : List (NMsg × Time)) :
    consume payloadOf (resetState st) log =
      consume payloadOf { self := st.self, selfKey := st.selfKey, skipVerify := st.skipVerify } log := rfl

/-- a reset forgets everything: the state after reset + replay does not depend on what the node held before -/
theorem reset_forgets (payloadOf : Tasks.Msg → Bytes) (st st' : NodeSt) (log : List (NMsg × Time))
    (hs : st.self = st'.self) (hk : st.selfKey = st'.selfKey) (hv : st.skipVerify = st'.skipVerify) :
    consume payloadOf (resetState st) log = consume payloadOf (resetState st') log := by
  unfold resetState; rw [hs, hk, hv]

/-- non-vacuity: a log with two rounds interleaved, the second of which is junk for the first -/
example : roundLog "A" [(({ round := "A", event := "x", sender := "s", recipient := "", arg := none, validKeys := [] } : NMsg), (0 : Time)),
    ({ round := "B", event := "y", sender := "s", recipient := "", arg := none, validKeys := [] }, 1)] =
    [({ round := "A", event := "x", sender := "s", recipient := "", arg := none, validKeys := [] }, 0)] := by
  simp [roundLog]

end Dc4bcVerif.Props.C08
