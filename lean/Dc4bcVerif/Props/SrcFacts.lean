/-
  Facts read off the source on every run (Gen/MoreFacts.lean) that the models silently rely on.

  * `reader_is_stateless` (C16): `FileStorage.GetMessages` assigns to no field of its receiver. The board model
    (`Model/Board.lean`) makes a read a function of the file content, the offset and the ignore lists; a node's poller
    keeps ONE handle open for its whole life, so state left behind by a read would make later reads depend on earlier ones.
  * `verify_accepts_only` (C09, C10): `verifyMessage` returns nil in exactly two places — when verification is switched
    off (the operator's flag; during a re-initialisation replay, for the unsigned 0.1.4 patches) and at its end, after
    `ed25519.Verify` succeeded. The node model's `verifyMessage` has exactly these two ways of saying ok.
  * the operation repository (C13, C15; `Gen/Locks.lean`): `delete_tombstone_first` — `DeleteOperation` writes the tombstone
    list, THEN the pool; `pool_read_filters_tombstones` — the raw read of the pool drops what is in the tombstone list (so
    a kill between the two writes leaves the operation retired, not pending again); `put_touches_only_pool` —
    `PutOperation` writes the pool and nothing else (it cannot remove a tombstone).
  * the clock (C08, C05; `MoreFacts.clockReads`): `clock_readers_known` — of all functions in the round machines, the FSM
    engine, the request types, the node services, the repositories and the board storage, exactly three mention a clock-reading
    function of package `time`: the poller's ticker, `ProposeSignMessages` (the stamp of a new proposal, which then travels in
    the log) and `handleMessage` (the stamp `CreatedAt` of the request built from a board message: the node-clock parameter
    of `Props/C13Clock.lean`). `round_machines_read_no_clock`: none of them is in a directory under `fsm` — a round's
    callbacks compare stamps that came with the log, never the wall clock of the machine that happens to replay it.
-/
import Dc4bcVerif.Gen.MoreFacts
import Dc4bcVerif.Gen.Locks

namespace Dc4bcVerif.Props.SrcFacts
open Dc4bcVerif.Gen

theorem reader_is_stateless : MoreFacts.readerAssigns = [] := rfl

theorem verify_accepts_only : MoreFacts.verifyAccepts = ["s.GetSkipCommKeysVerification()", "end"] := rfl

def callsOf (name : String) : List String :=
  match Locks.repoMethods.find? (fun e => e.1 == name) with
  | some e => e.2.2
  | none => []

theorem delete_tombstone_first : callsOf "DeleteOperation" =
    ["r.getDeletedOperations", "r.state.Set(r.deleteOperationsCompositeKey)", "r.getOperations", "r.state.Set(r.operationsCompositeKey)"] := by rfl

theorem pool_read_filters_tombstones : (callsOf "getOperations").contains "r.getDeletedOperations" = true := by decide +kernel

theorem put_touches_only_pool : callsOf "PutOperation" = ["r.getOperations", "r.state.Set(r.operationsCompositeKey)"] := by rfl

theorem clock_readers_known : MoreFacts.clockReads =
    [("client/services/node", "Poll:NewTicker"), ("client/services/node", "ProposeSignMessages:Now"),
     ("client/services/node", "handleMessage:Now")] := rfl

theorem round_machines_read_no_clock : ∀ p ∈ MoreFacts.clockReads, p.1 = "client/services/node" := by
  rw [clock_readers_known]; decide

/-- the directories of the round machines, the engine and the request types were among those searched -/
theorem round_machines_were_searched :
    ["fsm/fsm", "fsm/fsm_pool", "fsm/state_machines", "fsm/state_machines/dkg_proposal_fsm", "fsm/state_machines/internal",
     "fsm/state_machines/signature_proposal_fsm", "fsm/state_machines/signing_proposal_fsm", "fsm/types/requests",
     "client/services/fsmservice"].all (fun d => MoreFacts.clockDirs.contains d) = true := by decide +kernel

/-- the poll tick and `SaveOffset` both hold `tickMu` from their first statement to their return (fix 62396d7): an offset saved
through the API lands between two ticks, never inside one (C14) -/
theorem tick_and_saveoffset_exclude : MoreFacts.tickLocked =
    [("tick", "s.tickMu.Lock() ; defer s.tickMu.Unlock()"), ("SaveOffset", "s.tickMu.Lock() ; defer s.tickMu.Unlock()")] := rfl

end Dc4bcVerif.Props.SrcFacts
