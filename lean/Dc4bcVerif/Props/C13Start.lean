/-
  C13, the assumption discharged for the node, part 2 of 2 (part 1: `Props/C13Node.lean`): the start of a batch given to
  a round that is idle again (`start_idle_again`), the theorem for every message (`node_reapply`), and the node's handler in
  the crash model of `Props/C13.lean` (`nodeHandler`, `node_reapplySafe`, `node_crash_safe`).

  `nodeHandler` is built from `processMessage`, not from `processMessageTop`: the operations of the crash theorems are the
  list `Crash.Store.ops` under `Crash.putOnce` (which knows no tombstones), and the field `ops` of the node state inside
  `Store.state` is never written by this handler. `Crash.clean (nodeHandler …)` and `C08.consume` are two different folds,
  and no theorem here relates them.
-/
import Dc4bcVerif.Props.C13Node
import Dc4bcVerif.Props.C13

namespace Dc4bcVerif.Props.C13Node
open Dc4bcVerif.Gen Dc4bcVerif.Model Dc4bcVerif.Model.Node Dc4bcVerif.Lemmas.NodeLocal Dc4bcVerif.Props

/-! The start of a batch is the one event that can be accepted again: for an arbitrary payload it can end, within the same
`Do`, in a collected or a cancelled batch (a threshold of zero, a deadline in the past); the round is then restarted — by
the first handling after a collected batch, by the second before it applies the event to a cancelled one: the two leaves of
`second_do` that are not refusals — and accepts the same proposal again, WITHOUT any change (`C13Fsm.start_again`), so the
second handling stores what is stored already (`placeholders_idem`, `saveFSM_idem`). -/

theorem start_idle_again (payloadOf : Tasks.Msg → Bytes) (st2 st3 : NodeSt) (m : NMsg) (now1 now2 : Time)
    (inst2 i4 i5 i6 : Instance) (rs4 rs5 : Option St) (rd4 rd5 : Option RespData) (sent : List Sent)
    (hok3 : (inst2.doEv eSTART (m.arg.getD .other)).2.res = .ok)
    (f1 : firstHandOver (inst2.doEv eSTART (m.arg.getD .other)).1 (inst2.doEv eSTART (m.arg.getD .other)).2 now1 = some (i4, rs4, rd4))
    (f2 : secondHandOver i4 rs4 rd4 now1 = some (i5, rs5, rd5))
    (hrc : reconstructStep (rs5 == some .s_state_signing_partial_signs_collected) m = some sent)
    (f3 : restartAfterCollect (rs5 == some .s_state_signing_partial_signs_collected) i5 now1 = some i6)
    (hpl : placeholders st2 m payloadOf = some st3)
    (r : Instance) (hr : Instance.restore i6.dumpState i6.payload = some r) :
    doPanics ⟨.sign, sIDLE, some sIDLE, r.payload⟩ eSTART (m.arg.getD .other) = false ∧
    ∀ i3 o3, doOrReject ⟨.sign, sIDLE, some sIDLE, r.payload⟩ eSTART (m.arg.getD .other) = some (i3, o3) →
      Quiet (saveFSM st3 m.round (i6.dumpState, i6.payload)) (opOf rs5 rd5 m)
        (afterDo (saveFSM st3 m.round (i6.dumpState, i6.payload)) i3 o3 m now2 payloadOf) := by
  -- the first handling: the idle signing machine, no hand-over
  obtain ⟨hsome, hreach, _, hdump3, hrs3⟩ := doEv_ok_facts inst2 eSTART _ hok3
  obtain ⟨hm2, hs2⟩ := start_sources hsome
  have hs2 : inst2.state = sIDLE := by simpa using hs2
  rw [hm2, hs2] at hreach
  obtain ⟨_, hnsig, hnmk⟩ := after_start _ hreach
  obtain ⟨rfl, rfl, rfl⟩ := no_handOver hrs3 hnsig hnmk f1 f2
  -- the round it stored, restarted or not, carries the payload the first `Do` left
  have hp : r.payload = (inst2.doEv eSTART (m.arg.getD .other)).1.payload := by
    rcases restartAfterCollect_some f3 with ⟨_, rr, o, hrr, hdr⟩ | ⟨_, rfl⟩
    · obtain ⟨_, _, rfl⟩ := restart_some hdr
      rw [hdump3, restore_eq] at hrr
      cases hrr
      cases (restore_eq sIDLE _).symm.trans hr
      rfl
    · rw [hdump3, restore_eq] at hr
      cases hr
      rfl
  -- so the idle round accepts the proposal again, with the same result
  have hdo := C13Fsm.start_again inst2 ⟨.sign, sIDLE, some sIDLE, r.payload⟩ (m.arg.getD .other) hm2 hs2 hok3 rfl rfl hp
  have hok' := hdo ▸ hok3
  refine ⟨by unfold doPanics; rw [hok']; rfl, fun i3' o3' hd' => ?_⟩
  obtain ⟨_, rfl, rfl⟩ := doOrReject_some hd'
  rw [hdo]
  refine afterDo_cases (P := Quiet _ _) _ _ _ m now2 payloadOf (rejected := quiet_reject _ _) (done := ?_)
  intro i4' rs4' rd4' i5' rs5' rd5' sent' i6' st3' f1' f2' hrc' f3' hpl'
  obtain ⟨rfl, rfl, rfl⟩ := no_handOver hrs3 hnsig hnmk f1' f2'
  rw [hrc] at hrc'
  rw [restartAfterCollect_indep _ _ now2 now1, f3] at f3'
  rw [placeholders_idem _ st3 m payloadOf hpl] at hpl'
  cases hrc'; cases f3'; cases hpl'
  rw [saveFSM_idem]
  exact ⟨nofun, fun _ => ⟨rfl, Or.inr rfl⟩⟩

/-- **node_reapply.** Every node state, every message, every two clock readings: a message that was handled successfully
is, when handled again on the resulting state, not a crash, and if it is accepted again then nothing changes and the
operation it asks for (if any) is the one it asked for the first time. A rejection changes nothing either
(`C18.reject_is_noop`). -/
theorem node_reapply (payloadOf : Tasks.Msg → Bytes) (st : NodeSt) (m : NMsg) (now1 now2 : Time)
    (hok : (processMessage st m now1 payloadOf).out = .ok) :
    AgainAt payloadOf (processMessage st m now1 payloadOf).st m (processMessage st m now1 payloadOf).op now2 := by
  revert hok
  refine processMessage_cases (P := fun r => r.out = .ok → AgainAt payloadOf r.st m r.op now2) st m now1 payloadOf (rejected := nofun)
    (saved := fun _ l st2 _ h1 hs hsv _ => saved_again payloadOf st st2 m l now2 h1 hs hsv)
    (quiet := fun inst ha h1 hwhy _ => quiet_again payloadOf st m now1 now2 inst ha.loaded h1 hwhy) (applied := ?_)
  intro inst inst2 ev _ h1 _ _ hf _ _
  refine ⟨nofun, fun i3 o3 hd => ?_⟩
  refine afterDo_cases (P := fun r => r.out = .ok → AgainAt payloadOf r.st m r.op now2) st i3 o3 m now1 payloadOf
    (rejected := fun _ => nofun) (done := ?_)
  intro i4 rs4 rd4 i5 rs5 rd5 sent i6 st3 f1 f2 hrc f3 hpl _
  obtain ⟨hok3, rfl, rfl⟩ := doOrReject_some hd
  refine applied_again payloadOf st3 m i6 _ now2 ev h1 hf fun r inst2' hr hin => ?_
  -- the round that was stored refuses the event, or is idle again and the event is the start of a batch
  rcases second_do inst2 ev _ now1 hok3 i4 i5 i6 rs4 rs5 rd4 rd5 f1 f2 f3 r hr inst2' hin with herr | ⟨rfl, rfl⟩
  · exact refused_quiet herr _
  · exact start_idle_again payloadOf st st3 m now1 now2 inst2 i4 i5 i6 rs4 rs5 rd4 rd5 sent hok3 f1 f2 hrc f3 hpl r hr

open Dc4bcVerif.Model.Crash in
/-- the node's handler in the shape of `Model/Crash.lean`: `none` = not accepted -/
def nodeHandler (payloadOf : Tasks.Msg → Bytes) (now : Time) : Handler NodeSt NMsg NOp := fun st m =>
  let r := processMessage st m now payloadOf
  if r.out = .ok then some (r.st, r.op) else none

theorem nodeHandler_reapply (payloadOf : Tasks.Msg → Bytes) (t1 t2 : Time) (s : NodeSt) (m : NMsg) (s' : NodeSt) (o : Option NOp)
    (h : nodeHandler payloadOf t1 s m = some (s', o)) :
    nodeHandler payloadOf t2 s' m = none ∨ ∃ o', nodeHandler payloadOf t2 s' m = some (s', o') ∧ (o' = none ∨ o' = o) := by
  unfold nodeHandler at h ⊢
  dsimp only at h ⊢
  split at h
  · rename_i hok
    cases h
    have ha := node_reapply payloadOf s m t1 t2 hok
    split
    · rename_i hok2
      obtain ⟨hst, hop⟩ := ha.2 hok2
      exact Or.inr ⟨_, by rw [hst], hop⟩
    · exact Or.inl rfl
  · cases h

/-- **`ReapplySafe` holds of the node's handler** (at any fixed clock reading; `node_reapply` is the statement for two) -/
theorem node_reapplySafe (payloadOf : Tasks.Msg → Bytes) (now : Time) : C13.ReapplySafe (nodeHandler payloadOf now) :=
  nodeHandler_reapply payloadOf now now

open Dc4bcVerif.Model.Crash in
/-- **crash_safe for the node's handler, without assumption**: whatever the kills, the store is a crash-free prefix run,
possibly with the next message partially applied; once the log is worked through it IS the crash-free store. -/
theorem node_crash_safe (payloadOf : Tasks.Msg → Bytes) (now : Time) (log : List NMsg) (d : Store NodeSt NOp)
    (sched : List (Option Nat)) :
    ∃ j, C13.Partial (nodeHandler payloadOf now) log (clean (nodeHandler payloadOf now) log d j)
      (run C13.newOrder (nodeHandler payloadOf now) log d sched) :=
  C13.crash_safe (nodeHandler payloadOf now) (node_reapplySafe payloadOf now) log d sched

open Dc4bcVerif.Model.Crash in
theorem node_crash_safe_final (payloadOf : Tasks.Msg → Bytes) (now : Time) (log : List NMsg) (d : Store NodeSt NOp)
    (sched : List (Option Nat)) (hdone : log.length ≤ (run C13.newOrder (nodeHandler payloadOf now) log d sched).offset) :
    ∃ j, run C13.newOrder (nodeHandler payloadOf now) log d sched = clean (nodeHandler payloadOf now) log d j :=
  C13.crash_safe_final (nodeHandler payloadOf now) (node_reapplySafe payloadOf now) log d sched hdone

/-! ### non-vacuity: a message that IS accepted, and is rejected the second time -/

def nvSt : NodeSt := { self := "alice", skipVerify := true }
def nvMsg : NMsg :=
  { round := "r", event := "event_sig_proposal_init", sender := "alice", recipient := "",
    arg := some (.sigInit [⟨"alice", [1,2,3,4,5,6,7,8,9,10], [1,2,3,4,5,6,7,8,9,10]⟩, ⟨"bobby", [1,2,3,4,5,6,7,8,9,10], [1,2,3,4,5,6,7,8,9,10]⟩] 2 1000),
    validKeys := [] }

theorem nv_accepted : (processMessage nvSt nvMsg 5 (fun _ => [])).out = .ok := by decide +kernel

example : (processMessage nvSt nvMsg 5 (fun _ => [])).out = .ok := nv_accepted
example : (processMessage (processMessage nvSt nvMsg 5 (fun _ => [])).st nvMsg 9 (fun _ => [])).out = .reject := by decide +kernel
example : (nodeHandler (fun _ => []) 5 nvSt nvMsg).isSome = true := by
  unfold nodeHandler
  simp only [nv_accepted, ↓reduceIte, Option.isSome_some]

end Dc4bcVerif.Props.C13Node
