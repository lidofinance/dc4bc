/-
  C04 — secrets stay inside the airgapped machine and are never reused across rounds.

  What a theorem can say here, and what it cannot:
  * `secrecy` (symbolic): if a secret atom occurs in the exported terms only under one-way exponentiation, as a
    signing key, or inside ciphertexts for participants that are not corrupted, then NO sequence of attacker
    operations (projections, decryption with corrupted keys, reading signed messages, building new terms) derives
    it. `exported_guarded`: the terms an honest machine exports (model `Sym.exported`, read off the handlers) are of
    that form for its long-term key, seed, polynomial coefficients and final share, for every n, t, number of signed
    messages and every set of corrupted participants not containing it; `machine_secrets_safe` puts the two together.
    A deal for participant j opens for j only: `deal_share_needs_addressee`.
  * `rounds_share_dealer_secret`: KNOWN FINDING, not fixed. The dealer polynomial is drawn from a reader seeded with the
    base seed alone, so on the same machine it is the same in every round (the per-round suite seed does not enter it).
  What no theorem here says: that ECIES, scrypt+AES-GCM, Schnorr and BLS are as strong as the symbolic model assumes;
  that the Go code exports exactly the modelled terms (checked by secretdiff: every result file, every board message
  and every database file of real ceremonies is searched for every secret in ten encodings, nested JSON/base64
  included; every (deal, non-addressee key) pair is tried; wrong passwords are tried after a correct unlock in the
  same process); anything about memory or side channels.
-/
import Dc4bcVerif.Model.Sym

namespace Dc4bcVerif.Props.C04
open Dc4bcVerif.Model.Sym

variable {S P : Type} [DecidableEq S]

/-- Guardedness of the exported terms is preserved by everything the attacker can do. -/
theorem secrecy (C : Nat → Prop) (K : Term S P → Prop) (s : S) (hK : ∀ t, K t → guarded C s t) :
    ∀ t, Derivable C K t → guarded C s t := by
  intro t hd
  induction hd with
  | known h => exact hK _ h
  | fst _ ih => exact ih.1
  | snd _ ih => exact ih.2
  | dec _ hc ih =>
    rcases ih with h | h
    · exact absurd hc h
    · exact h
  | sigMsg _ ih => exact ih
  | mkPair _ _ iha ihb => exact ⟨iha, ihb⟩
  | mkExp _ _ => trivial
  | mkEnc _ ih => exact Or.inr ih
  | mkSig _ _ _ ihm => exact ihm
  | pubData => trivial

theorem secret_not_derivable (C : Nat → Prop) (K : Term S P → Prop) (s : S) (hK : ∀ t, K t → guarded C s t) :
    ¬ Derivable C K (.sec s) := by
  intro h
  exact (secrecy C K s hK _ h) rfl

/-- the secrets of machine `i` the property names -/
def ownSecret (i : Nat) : Atom → Prop
  | .longTermKey j => j = i
  | .seed j => j = i
  | .coefficient j _ => j = i
  | .finalShare j => j = i
  | .dealShare _ _ => False

theorem foldr_pair_guarded (C : Nat → Prop) (s : Atom) (l : List T) (h : ∀ c ∈ l, guarded C s c) :
    guarded C s (l.foldr (fun c acc => Term.pair c acc) (.pub (.text 0))) :=
  List.foldrRecOn (motive := guarded C s) l _ trivial fun _ hacc c hc => ⟨h c hc, hacc⟩

/-- What a machine exports exposes one kind of secret only: the evaluation in a deal, to that deal's addressee.
Every other occurrence of a secret is under `exp` or a signing key. -/
theorem exported_guarded_of (C : Nat → Prop) (i n t nmsgs : Nat) (s : Atom) (hs : ∀ j, s = .dealShare i j → ¬ C j) :
    ∀ x ∈ exported i n t nmsgs, guarded C s x := by
  intro x hx
  unfold exported at hx
  simp only [List.mem_append, List.mem_map, List.mem_filter, List.mem_range, List.mem_cons,
    List.not_mem_nil, or_false] at hx
  rcases hx with ((((hx | hx) | hx) | hx) | hx) | hx
  · subst hx; trivial
  · obtain ⟨k, _, rfl⟩ := hx; trivial
  · obtain ⟨j, _, rfl⟩ := hx
    by_cases he : s = .dealShare i j
    · exact Or.inl (hs j he)
    · refine Or.inr ⟨fun h => he h.symm, foldr_pair_guarded C s _ ?_⟩
      intro c hc
      obtain ⟨k, _, rfl⟩ := List.mem_map.mp hc
      trivial
  · obtain ⟨j, _, rfl⟩ := hx; trivial
  · rcases hx with rfl | rfl <;> trivial
  · obtain ⟨m, _, rfl⟩ := hx; trivial

/-- Every term an honest machine exports is guarded for each of its own secrets, whoever is
corrupted. (Its deal for a corrupted addressee exposes that addressee's evaluation of the polynomial — as the
protocol intends — and nothing else.) -/
theorem exported_guarded (C : Nat → Prop) (i n t nmsgs : Nat) (s : Atom) (hs : ownSecret i s) :
    ∀ x ∈ exported i n t nmsgs, guarded C s x :=
  exported_guarded_of C i n t nmsgs s (fun _ he => by rw [he] at hs; exact hs.elim)

/-- From everything machine `i` ever exports, with the decryption keys of any set of
corrupted participants, none of `i`'s long-term key, seed, polynomial coefficients or final share can be derived. -/
theorem machine_secrets_safe (C : Nat → Prop) (i n t nmsgs : Nat) (s : Atom) (hs : ownSecret i s) :
    ¬ Derivable C (fun x => x ∈ exported i n t nmsgs) (.sec s) :=
  secret_not_derivable C _ s (exported_guarded C i n t nmsgs s hs)

/-- The evaluation dealer `i` sends to `j` is derivable only if `j` is corrupted:
a deal opens with its addressee's key only. -/
theorem deal_share_needs_addressee (C : Nat → Prop) (i j n t nmsgs : Nat) (hj : ¬ C j) :
    ¬ Derivable C (fun x => x ∈ exported i n t nmsgs) (.sec (.dealShare i j)) :=
  secret_not_derivable C _ _ (exported_guarded_of C i n t nmsgs _ (fun _ he => by cases he; exact hj))

/-- non-vacuity: the model is not trivially safe — a corrupted addressee does obtain its evaluation -/
example : Derivable (fun j => j = 1) (fun x => x ∈ exported 0 3 2 1) (.sec (.dealShare 0 1) : T) := by
  have hmem : (Term.enc 1 (.pair (.sec (.dealShare 0 1)) ((((List.range 2).map (fun k => (Term.exp (.sec (Atom.coefficient 0 k)) : T)))).foldr (fun c acc => Term.pair c acc) (.pub (.text 0)))) : T) ∈ exported 0 3 2 1 := by
    decide
  exact Derivable.fst (Derivable.dec (Derivable.known hmem) rfl)

/-- how a machine picks its dealer polynomial: a deterministic stream `prg` of a seed. In the code the per-round
suite is seeded with `sha256(round ‖ baseSeed)` but the dealer polynomial is read from `frand.NewCustom(baseSeed)`. -/
def dealerSecretImpl {Seed Round Poly : Type} (prg : Seed → Poly) (baseSeed : Seed) (_round : Round) : Poly := prg baseSeed

def dealerSecretIntended {Seed Round Poly : Type} (prg : Seed → Poly) (mix : Round → Seed → Seed) (baseSeed : Seed) (round : Round) : Poly :=
  prg (mix round baseSeed)

/-- **rounds_share_dealer_secret** (KNOWN FINDING C04-rounds-share-dealer-polynomial). As implemented, the dealer
polynomial does not depend on the round at all. -/
theorem rounds_share_dealer_secret {Seed Round Poly : Type} (prg : Seed → Poly) (baseSeed : Seed) (r1 r2 : Round) :
    dealerSecretImpl prg baseSeed r1 = dealerSecretImpl prg baseSeed r2 := rfl

end Dc4bcVerif.Props.C04
