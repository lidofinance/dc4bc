/-
  C03 — what gets signed is exactly what was proposed.

  Model: `Tasks.tasksToMessages` mirrors `requests.TasksToMessages` / `ReconstructBakedMessage`
  (the single expansion used by the airgapped signer, by reconstruction and by the signature
  store). The three consumers are modelled as the code has them: all three walk the expanded list
  in order and key what they keep by message id, the last entry for an id winning
  (`PartialSigns[MessageID] = …` in the FSM, `messages[m.MessageID] = m` in
  `reconstructThresholdSignature`, `AddReconstructedSignature` replacing the entry of the same user).
-/
import Dc4bcVerif.Model.Tasks
import Dc4bcVerif.Lemmas.Assoc

namespace Dc4bcVerif.Props.C03
open Dc4bcVerif.Model Dc4bcVerif.Model.Tasks

theorem explicit_payload_exact (t : Task) (p : Bytes) (h : t.payload = some p) :
    tasksToMessages [t] = .ok [{ messageId := t.messageId, file := t.file, payload := some p }] := by
  simp [tasksToMessages, taskMsgs, h]

/-- **order_preserved**: the expansion is a list homomorphism — the messages of a batch are the
messages of its tasks, in task order (so every participant, running the same function on the
same proposal bytes, obtains the same ordered list) -/
theorem expansion_append (a b : List Task) (ma mb : List Msg)
    (ha : tasksToMessages a = .ok ma) (hb : tasksToMessages b = .ok mb) :
    tasksToMessages (a ++ b) = .ok (ma ++ mb) := by
  revert ma
  fun_induction tasksToMessages a
  case case1 => rintro _ ⟨⟩; exact hb
  case case2 t rest m1 mr hr ht ih =>
    rintro _ ⟨⟩
    rw [List.cons_append, tasksToMessages, ht, ih mr hr, List.append_assoc]
  all_goals nofun

/-- a failing lookup anywhere aborts the whole expansion: nothing is signed for a proposal that
reaches outside the list (no partial batch) -/
theorem expansion_fails_atomically (t : Task) (rest : List Task) (e : LookupRes)
    (h : taskMsgs t = .error e) : tasksToMessages (t :: rest) = .error e := by
  simp [tasksToMessages, h]

/-- messages produced for a range: one per position `start … start+k-1`, in order, each carrying
the validator index found at that position; `C17.code_eq_spec` says what its payload is -/
theorem range_messages (k : Nat) (start : Int) (ms : List Msg) (h : rangeMsgs k start = .ok ms) :
    ms.length = k ∧ ∀ j (hj : j < ms.length), ∃ v, reconstructBaked (start + j) = .ok v ∧
      ms[j] = { messageId := toString v, file := "bakedrange" ++ toString (start + j), payload := none, baked := some v } := by
  revert ms
  fun_induction rangeMsgs k start
  case case1 => rintro _ ⟨⟩; exact ⟨rfl, nofun⟩
  case case2 k start v hb rest hr ih =>
    rintro _ ⟨⟩
    obtain ⟨hl, hall⟩ := ih rest hr
    refine ⟨by rw [List.length_cons, hl], fun j hj => ?_⟩
    cases j with
    | zero => exact ⟨v, by simpa using hb, by simp⟩
    | succ j' =>
      obtain ⟨v', hv', hm⟩ := hall j' (by simpa using hj)
      have : start + ((j' + 1 : Nat) : Int) = start + 1 + (j' : Int) := by omega
      exact ⟨v', this ▸ hv', by simpa only [List.getElem_cons_succ, this] using hm⟩
  all_goals nofun

/-- the last message carrying a given id (what a map keyed by id retains after walking the list) -/
def lastWith (id : String) (ms : List Msg) : Option Msg := (ms.filter (fun m => m.messageId == id)).getLast?

/-- airgapped signer: signs every message in order; the FSM then keeps `PartialSigns[id]` -/
def signerKeeps (sign : Msg → Bytes) (ms : List Msg) : List (String × Bytes) :=
  ms.foldl (fun acc m => assocSet acc m.messageId (sign m)) []

/-- reconstruction: `messages[m.MessageID] = m` -/
def reconstructKeeps (ms : List Msg) : List (String × Msg) :=
  ms.foldl (fun acc m => assocSet acc m.messageId m) []

def assocGet {β : Type} (l : List (String × β)) (k : String) : Option β := (l.find? (fun p => p.1 == k)).map (·.2)

theorem assocGet_assocSet {β : Type} (l : List (String × β)) (k k' : String) (v : β) :
    assocGet (assocSet l k v) k' = if k = k' then some v else assocGet l k' :=
  get_assocSet l k k' v

theorem foldl_keeps_last {β : Type} (f : Msg → β) (ms : List Msg) (init : List (String × β)) (id : String) :
    assocGet (ms.foldl (fun acc m => assocSet acc m.messageId (f m)) init) id =
      match lastWith id ms with
      | some m => some (f m)
      | none => assocGet init id := by
  induction ms generalizing init with
  | nil => rfl
  | cons m rest ih =>
    rw [List.foldl_cons, ih, assocGet_assocSet]
    simp only [lastWith, List.filter_cons, beq_iff_eq]
    by_cases hm : m.messageId = id
    · rw [if_pos hm, if_pos hm, List.getLast?_cons]
      cases (rest.filter (fun m => m.messageId == id)).getLast? <;> rfl
    · rw [if_neg hm, if_neg hm]

/-- For every message id of the batch, the bytes the signer signed (and the FSM
kept), and the message reconstruction verifies against, are those of one and the same expanded
message: the last one carrying that id. -/
theorem consumers_agree (sign : Msg → Bytes) (ms : List Msg) (id : String) :
    assocGet (signerKeeps sign ms) id = (assocGet (reconstructKeeps ms) id).map sign := by
  unfold signerKeeps reconstructKeeps
  rw [foldl_keeps_last sign ms [] id, foldl_keeps_last (fun m => m) ms [] id]
  cases lastWith id ms <;> simp [assocGet]

/-- non-vacuity: a mixed batch (explicit payload, then positions 0 and 1 of the baked list) -/
example : (match tasksToMessages [⟨"m1", "f", some [1, 2], 0, 0⟩, ⟨"r", "", none, 0, 2⟩] with
    | .ok ms => ms == [⟨"m1", "f", some [1, 2], none⟩, ⟨"52694", "bakedrange0", none, some 52694⟩,
                       ⟨"52695", "bakedrange1", none, some 52695⟩]
    | .error _ => false) = true := by
  decide +kernel

end Dc4bcVerif.Props.C03
