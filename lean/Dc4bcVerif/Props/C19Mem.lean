/-
  C19 — what an object kept in memory can remember that a restored one cannot, read off /repo on every run
  (Gen/MachineFacts.lean).

  The model's `Instance` is (machine, machine state, dump state, payload): `restore_bisim` (Props/C19.lean) says that dump +
  restore after any accepted event gives back the SAME instance, so it answers every later event alike. That is a statement
  about the code only if a machine object holds nothing but what the model's instance holds:
  * `machine_objects_hold_state_and_payload`: the three round machines are (the embedded engine, the payload pointer, its
    mutex); the instance is (machine, dump); the engine is (name, initial state, current state, the transition and callback
    tables, the initial event, the finish states, a mutex) — tables that `New()` builds from the source and never changes;
  * `no_package_state`: the packages of the machines, the engine and the pool declare no package-level variable.
  A field or a variable added to remember something between events is remembered by the object that stays in memory and
  forgotten by `FromDump`, which builds fresh machines: the list changes, the proof obligation breaks, and fsmdiff's live twin
  (one object kept in memory along every guided walk, compared with the round restored before every event) looks for the
  event on which the two answer differently.
-/
import Dc4bcVerif.Gen.MachineFacts

namespace Dc4bcVerif.Props.C19Mem
open Dc4bcVerif.Gen

theorem machine_objects_hold_state_and_payload : MachineFacts.machineFields = [("SignatureProposalFSM", "embedded *fsm.FSM; payload *internal.DumpedMachineStatePayload; payloadMu sync.RWMutex"),
  ("DKGProposalFSM", "embedded *fsm.FSM; payload *internal.DumpedMachineStatePayload; payloadMu sync.RWMutex"),
  ("SigningProposalFSM", "embedded *fsm.FSM; payload *internal.DumpedMachineStatePayload; payloadMu sync.RWMutex"),
  ("FSMInstance", "machine internal.DumpedMachineProvider; dump *FSMDump"),
  ("FSM", "name string; initialState State; currentState State; transitions map[trKey]*trEvent; autoTransitions map[trAutoKeyEvent]*trEvent; callbacks Callbacks; initialEvent Event; finStates map[State]bool; stateMu sync.RWMutex")] := rfl

theorem no_package_state : MachineFacts.packageVars = [] := rfl

end Dc4bcVerif.Props.C19Mem
