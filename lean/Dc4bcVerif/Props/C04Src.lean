/-
  C04 — where the secrets go, read off /repo on every run (Gen/SecretUses.lean).

  The symbolic model (`Model/Sym.lean`, `exported`) says what a machine lets out: public keys and commitments (one-way
  images), deals sealed for their addressee, signatures. It was written by hand from the handlers. This file ties it to the
  source from the other end: the translator lists EVERY mention, in packages airgapped and dkg, of what holds the long-term
  private key (`secKey`, `GetSecKey()`) or the BLS share (`Share`, `PriShare()`, `DistKeyShare()`, `GetDistKeyShare()`,
  `GetBLSKeyring()`), each with the innermost call that consumes it (its callee and its text; "write" for an assignment to it, "-" for a
  plain statement).
  * `secret_uses_known`: the list is exactly the one below: the key is generated, loaded, saved (through `encrypt`), handed to
    `dkg.Init` / `NewDistKeyGenerator` (the dealer), to `ecies.Decrypt` and to point multiplication; the share is taken from
    kyber, put into the keyring, gob-encoded by `BLSKeyring.Bytes` (for the encrypted database value) and used by `tbls.Sign`.
  * `consumers_are_these`: every consuming callee is one of nine: curve arithmetic, kyber's dealer constructor, ECIES
    decryption, threshold signing, (un)marshalling for the encrypted database value. None of them formats, logs or wraps an
    error: a secret does not reach an error result, a log line or a message text by being printed.
  A change that sends a secret anywhere else changes the list; secretdiff then searches the real outputs — results of genuine
  AND of faulty operations, board messages, database files — for the secret in every encoding it knows.
-/
import Dc4bcVerif.Gen.SecretUses

namespace Dc4bcVerif.Props.C04Src
open Dc4bcVerif.Gen

theorem secret_uses_known : SecretUses.secretUses = [
  ("airgapped.GenerateKeys", "write", "am.secKey = am.baseSuite.Scalar().Pick(am.baseSuite.RandomStream())"),
  ("airgapped.GenerateKeys", "am.baseSuite.Point().Mul", "am.baseSuite.Point().Mul(am.secKey, nil)"),
  ("airgapped.DropSensitiveData", "write", "am.secKey = nil"),
  ("airgapped.decryptDataFromParticipant", "ecies.Decrypt", "ecies.Decrypt(am.baseSuite, am.secKey, data, am.baseSuite.Hash)"),
  ("airgapped.createPartialSign", "tbls.Sign", "tbls.Sign(am.baseSuite.(pairing.Suite), blsKeyring.Share, msg)"),
  ("airgapped.handleStateDkgCommitsAwaitConfirmations", "dkg.Init", "dkg.Init(suite, am.pubKey, am.secKey)"),
  ("airgapped.handleStateDkgMasterKeyAwaitConfirmations", "-", "blsKeyring, err := dkgInstance.GetBLSKeyring()"),
  ("airgapped.LoadKeysFromDB", "write", "am.secKey = am.baseSuite.Scalar()"),
  ("airgapped.LoadKeysFromDB", "am.secKey.UnmarshalBinary", "am.secKey.UnmarshalBinary(decryptedPrivateKey)"),
  ("airgapped.SaveKeysToDB", "am.secKey.MarshalBinary", "am.secKey.MarshalBinary()"),
  ("dkg.Init", "write", "d.secKey = secKey"),
  ("dkg.GetSecKey", "-", "return d.secKey"),
  ("dkg.InitDKGInstance", "dkg.NewDistKeyGenerator", "dkg.NewDistKeyGenerator(d.suite, d.secKey, publicKeys, d.Threshold, reader)"),
  ("dkg.GetDistKeyShare", "-", "return d.instance.DistKeyShare()"),
  ("dkg.GetDistributedPublicKey", "-", "distKeyShare, err := d.instance.DistKeyShare()"),
  ("dkg.GetBLSKeyring", "-", "distKeyShare, err := d.instance.DistKeyShare()"),
  ("dkg.GetBLSKeyring", "-", "return &BLSKeyring{ PubPoly: masterPubKey, Share: distKeyShare.PriShare(), }, nil"),
  ("dkg.Bytes", "shareEnc.Encode", "shareEnc.Encode(b.Share)"),
  ("dkg.LoadBLSKeyringFromBytes", "-", "priShare, privDec := &share.PriShare{V: suite.(pairing.Suite).G1().Scalar()}, gob.NewDecoder(bytes.NewBuffer(blsKeyringJson.Share))"),
  ("dkg.LoadBLSKeyringFromBytes", "bytes.NewBuffer", "bytes.NewBuffer(blsKeyringJson.Share)")
] := rfl

/-- what may consume a secret -/
def consumers : List String := ["write", "-", "am.baseSuite.Point().Mul", "ecies.Decrypt", "tbls.Sign", "dkg.Init",
  "am.secKey.UnmarshalBinary", "am.secKey.MarshalBinary", "dkg.NewDistKeyGenerator", "shareEnc.Encode", "bytes.NewBuffer"]

theorem consumers_are_these : SecretUses.secretUses.all (fun x => consumers.contains x.2.1) = true := by decide +kernel

/-- the plain statements among them hand the secret on to a variable or to the caller, nothing else -/
theorem plain_statements_are_these : (SecretUses.secretUses.filter (fun x => x.2.1 == "-")).map (fun x => x.2.2) =
    ["blsKeyring, err := dkgInstance.GetBLSKeyring()", "return d.secKey", "return d.instance.DistKeyShare()",
     "distKeyShare, err := d.instance.DistKeyShare()", "distKeyShare, err := d.instance.DistKeyShare()",
     "return &BLSKeyring{ PubPoly: masterPubKey, Share: distKeyShare.PriShare(), }, nil",
     "priShare, privDec := &share.PriShare{V: suite.(pairing.Suite).G1().Scalar()}, gob.NewDecoder(bytes.NewBuffer(blsKeyringJson.Share))"] := by rfl

/-- not vacuous: the consumer of seed C04h is not among them -/
example : consumers.contains "fmt.Errorf" = false := by decide +kernel

end Dc4bcVerif.Props.C04Src
