/-
  C20, the airgapped side: `handleReinitDKG` (`Model/AirReinit.lean`) over the handler model of `Model/AirDkg.lean`.

  * `loop_eq_run`              - a payload made of key-generation operations that are all answered (none fatally refused)
                                 is handled exactly like the same operations handed over one by one;
  * `reinit_reproduces_share`  - a machine that was just started (no instance in memory; WHATEVER key rings its database
                                 holds) and has the key of the original machine, given as a re-initialisation the operations
                                 the original machine answered in its ceremony, answers with the original public polynomial,
                                 holds the original key ring (polynomial AND share) for the round and the original instances;
  * `reinit_replayed_after_stop` - the re-initialisation operation is logged: stop + replay gives the same machine and answer;
  * `processed_answer_is_the_stored_polynomial`, `passed_over_entries_do_not_matter`,
    `reinit_touches_only_named_rounds` (instance and key ring of a round no entry names stay as they were).
  The dealer polynomial is an input of the commits step (the seeded stream: same mnemonic and round id, same draw - tied by
  the airdkg stream, where the shadow machine's draw is read through the hook). Go's range order in the deals step is covered
  by `C12AirOrder.responses_order_irrelevant`; the master-key step's `ord` is taken to be the same in both runs.
  Core-only. Axioms: propext, Classical.choice, Quot.sound at most.
-/
import Dc4bcVerif.Model.AirReinit
import Dc4bcVerif.Props.C12Air

namespace Dc4bcVerif.Props.C20Air
-- every statement carries all instance binders of the `variable` line, whether it uses them or not
set_option linter.unusedSectionVars false
open Dc4bcVerif.Model.Shamir Dc4bcVerif.Model.AirDkg Dc4bcVerif.Lemmas.AirDkgSteps Dc4bcVerif.Props.C12Air

variable {F : Type} [Add F] [Mul F] [Sub F] [Div F] [Zero F] [One F] [DecidableEq F] [NatCast F]
variable {K : Type} [DecidableEq K]

/-- every operation of the list names a round and is answered - with a result or an error result -, none is refused fatally -/
def okRun (m : Machine F K) : List (Op F K) → Bool
  | [] => true
  | op :: rest =>
    match op.round? with
    | none => false
    | some round =>
      (match outcome (exec m op).1 round (exec m op).2 with | .fatal => false | _ => true) && okRun (exec m op).1 rest

theorem loop_eq_run (ops : List (Op F K)) : ∀ m : Machine F K, okRun m ops = true →
    reinitLoop m (ops.map Inner.kg) = (run m ops, true) := by
  intro m
  fun_induction okRun m ops
  case case1 => exact fun _ => rfl
  case case2 => nofun
  case case3 m op rest round hr ih =>
    intro h
    obtain ⟨h1, h2⟩ := Bool.and_eq_true_iff.mp h
    simp only [List.map_cons, reinitLoop, hr]
    cases ho : outcome (exec m op).1 round (exec m op).2 with
    | fatal => rw [ho] at h1; cases h1
    | result r => exact ih h2
    | errorResult p => exact ih h2

theorem outcome_congr {m m' : Machine F K} (h : vol m' = vol m) (round : String) (r : Res F) :
    outcome m' round r = outcome m round r := by
  unfold outcome; rw [(vol_eq_vol_iff.mp h).2]

theorem okRun_congr (ops : List (Op F K)) : ∀ {m m' : Machine F K}, vol m' = vol m → okRun m' ops = okRun m ops := by
  induction ops with
  | nil => intros; rfl
  | cons op rest ih =>
    intro m m' h
    obtain ⟨hres, hvol⟩ := exec_congr h op
    unfold okRun
    cases op.round? with
    | none => rfl
    | some round =>
      simp only
      rw [ih hvol, hres, outcome_congr hvol]

theorem okRun_vol (ops : List (Op F K)) : ∀ m : Machine F K, okRun m ops = okRun (vol m) ops :=
  fun m => (okRun_congr ops (vol_vol m)).symm

theorem lookup_puts_mono (k : String) (w l l' : List (String × Keyring F))
    (h : ∀ v, lookup k l = some v → lookup k l' = some v) : ∀ v, lookup k (puts w l) = some v → lookup k (puts w l') = some v :=
  List.foldl_rel (r := fun l l' => ∀ v, lookup k l = some v → lookup k l' = some v) h fun e _ l l' h v => by
    rw [lookup_put_eq, lookup_put_eq]
    split
    · exact id
    · exact h v

theorem lookup_puts_of_empty (k : String) (w l : List (String × Keyring F)) (v : Keyring F)
    (h : lookup k (puts w []) = some v) : lookup k (puts w l) = some v :=
  lookup_puts_mono k w [] l (fun _ hv => nomatch hv) v h

theorem vol_of_started (m : Machine F K) (me : K) (hme : m.me = me) (hstarted : m.insts = []) :
    vol m = vol (fresh me : Machine F K) :=
  vol_eq_vol_iff.mpr ⟨hme, hstarted⟩

theorem reinit_reproduces_share (me : K) (ops : List (Op F K)) (R : String) (kr : Keyring F)
    (hok : okRun (fresh me : Machine F K) ops = true)
    (hring : lookup R (run (fresh me : Machine F K) ops).rings = some kr)
    (m' : Machine F K) (hme : m'.me = me) (hstarted : m'.insts = []) :
    (reinitOp m' R (ops.map Inner.kg)).2 = ReinitRes.processed kr.pubPoly ∧
    lookup R (reinitOp m' R (ops.map Inner.kg)).1.rings = some kr ∧
    (reinitOp m' R (ops.map Inner.kg)).1.insts = (run (fresh me : Machine F K) ops).insts := by
  have hv := vol_of_started m' me hme hstarted
  have hok' : okRun m' ops = true := (okRun_congr ops hv).trans hok
  have hrun := (run_congr hv ops).1
  have hrings : lookup R (run m' ops).rings = some kr := by
    rw [run_rings] at hring
    rw [hrun]
    exact lookup_puts_of_empty R _ _ kr hring
  unfold reinitOp
  rw [loop_eq_run ops m' hok']
  simp only [hrings, true_and]
  rw [hrun]

theorem replay_general (m : Machine F K) (hstarted : m.insts = []) (ops : List (Op F K)) :
    run (stop (run m ops)) ops = run m ops :=
  run_again ops (vol_stop_run m hstarted ops) rfl

theorem reinit_machine (m : Machine F K) (r : String) (ops : List (Op F K)) (h : okRun m ops = true) :
    (reinitOp m r (ops.map Inner.kg)).1 = run m ops := by
  unfold reinitOp
  rw [loop_eq_run ops m h]
  simp only
  split <;> rfl

/-- The `reinit_dkg` operation is logged like any other; after a stop the replay hands it
to the machine again: the same machine, the same answer. -/
theorem reinit_replayed_after_stop (m : Machine F K) (hstarted : m.insts = []) (R : String) (ops : List (Op F K))
    (hok : okRun m ops = true) :
    reinitOp (stop (reinitOp m R (ops.map Inner.kg)).1) R (ops.map Inner.kg) = reinitOp m R (ops.map Inner.kg) := by
  have hok2 : okRun (stop (run m ops)) ops = true := (okRun_congr ops (vol_stop_run m hstarted ops)).trans hok
  rw [reinit_machine m R ops hok]
  unfold reinitOp
  rw [loop_eq_run ops _ hok2, loop_eq_run ops m hok, replay_general m hstarted ops]

theorem processed_answer_is_the_stored_polynomial (m : Machine F K) (R : String) (inner : List (Inner F K)) (p : List F)
    (h : (reinitOp m R inner).2 = ReinitRes.processed p) :
    ∃ kr, lookup R (reinitOp m R inner).1.rings = some kr ∧ kr.pubPoly = p := by
  revert h
  fun_cases reinitOp m R inner
  case case3 kr hl => exact fun h => ⟨kr, hl, ReinitRes.processed.inj h⟩
  all_goals
    intro h
    unfold reinitFail at h
    split at h <;> cases h

theorem passed_over_entries_do_not_matter (a b : List (Inner F K)) : ∀ m : Machine F K,
    reinitLoop m (a ++ Inner.skip :: b) = reinitLoop m (a ++ b) := by
  intro m
  fun_induction reinitLoop m a <;> simp_all [reinitLoop]

theorem exec_frame (m : Machine F K) (op : Op F K) (round : String) (h : op.round? = some round) (r' : String) (hne : r' ≠ round) :
    lookup r' (exec m op).1.insts = lookup r' m.insts ∧ lookup r' (exec m op).1.rings = lookup r' m.rings := by
  obtain ⟨w, res, hw⟩ := exec_eq_file m op round h
  rw [hw]
  exact lookup_file_ne round m w hne

/-- Whatever the payload holds and however the re-initialisation ends: the instance
and the key ring of a round that no key-generation entry names are what they were. -/
theorem reinit_touches_only_named_rounds (r' : String) (inner : List (Inner F K)) : ∀ m : Machine F K,
    (∀ op, Inner.kg op ∈ inner → op.round? ≠ some r') →
    lookup r' (reinitLoop m inner).1.insts = lookup r' m.insts ∧ lookup r' (reinitLoop m inner).1.rings = lookup r' m.rings := by
  intro m
  fun_induction reinitLoop m inner
  -- `[]`, or a failing entry / signing request that ends the loop: the machine is `m`
  case case1 | case4 | case5 => exact fun _ => ⟨rfl, rfl⟩
  -- skip / failing / sign / restart entries the loop passes over: `m` goes on
  case case2 ih | case3 ih | case6 ih | case7 ih => exact fun hn => ih fun op ho => hn op (List.mem_cons_of_mem _ ho)
  -- a key-generation entry refused fatally: one `exec`, then the loop ends
  case case8 m op _ round hr _ =>
    exact fun hn => exec_frame m op round hr r' fun e => hn op List.mem_cons_self (by rw [hr, e])
  -- ... answered: one `exec`, then the rest
  case case9 m op _ round hr _ ih =>
    intro hn
    obtain ⟨f1, f2⟩ := exec_frame m op round hr r' fun e => hn op List.mem_cons_self (by rw [hr, e])
    obtain ⟨g1, g2⟩ := ih fun op ho => hn op (List.mem_cons_of_mem _ ho)
    exact ⟨g1.trans f1, g2.trans f2⟩

/-! ### non-vacuity: the two-party round of `Model/AirDkg.lean` -/

def exAll : List (Op Int Nat) := exOps ++ [.masterKey "r" exResps [0, 1]]

example : okRun ({ me := 1 } : Machine Int Nat) exAll = true := by decide
example : (lookup "r" (run ({ me := 1 } : Machine Int Nat) exAll).rings) = some { pubPoly := [10, 16], share := 26 } := by decide
/-- a machine whose database already holds another key ring for the round (a stale one) ends with the original one -/
example : lookup "r" (reinitOp ({ me := 1, rings := [("r", { pubPoly := [1], share := 1 })] } : Machine Int Nat) "r" (exAll.map Inner.kg)).1.rings
    = some { pubPoly := [10, 16], share := 26 } := by decide

end Dc4bcVerif.Props.C20Air
