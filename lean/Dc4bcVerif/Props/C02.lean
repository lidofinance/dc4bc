/-
  C02 — key generation ends with one group key and mutually consistent shares (algebraic part).

  Pedersen DKG bookkeeping as the code does it (kyber `dkg/pedersen`, dc4bc `dkg/dkg.go`): dealer `i`
  broadcasts commitments `Cᵢ` (a list of `t` group elements) and sends participant `j` a share
  `s_ij`; `j` accepts iff `s_ij • g = evalCommit Cᵢ (j+1)` (`VerifyDeal`) and the commitments inside
  the deal equal the broadcast ones (`processDealCommits`); its final share is `Σᵢ s_ij` and the
  public polynomial is the coefficient-wise sum `Σᵢ Cᵢ`. Nothing is assumed about how a dealer
  produced `Cᵢ` or `s_ij` — only that the checks passed.
-/
import Mathlib.LinearAlgebra.Lagrange
import Dc4bcVerif.Model.Shamir

-- every statement carries all instance binders of the `variable` line, whether it uses them or not
set_option linter.unusedSectionVars false

namespace Dc4bcVerif.Props.C02
open Polynomial Dc4bcVerif.Model.Shamir

section
variable {F : Type} [Field F] [DecidableEq F]
variable {G : Type} [AddCommGroup G] [Module F G]

/-- `PubPoly.Eval`: Horner over group elements -/
def evalCommit (C : List G) (x : F) : G := C.foldr (fun c acc => c + x • acc) 0

/-- coefficient-wise sum of two commitment vectors (`PubPoly.Add`) -/
def addCommit : List G → List G → List G
  | a :: as, b :: bs => (a + b) :: addCommit as bs
  | [], bs => bs
  | as, [] => as

def sumCommits (Cs : List (List G)) : List G := Cs.foldr addCommit []

theorem evalCommit_add (A B : List G) (x : F) :
    evalCommit (addCommit A B) x = evalCommit A x + evalCommit B x := by
  fun_induction addCommit A B with
  | case1 a as b bs ih =>
    simp only [evalCommit, List.foldr_cons] at ih ⊢
    rw [ih, smul_add]; abel
  | case2 bs => simp [evalCommit]
  | case3 as _ => simp [evalCommit]

theorem evalCommit_sum (Cs : List (List G)) (x : F) :
    evalCommit (sumCommits Cs) x = (Cs.map (fun C => evalCommit C x)).sum := by
  induction Cs with
  | nil => simp [sumCommits, evalCommit]
  | cons C Cs ih =>
    simp only [sumCommits, List.foldr_cons, List.map_cons, List.sum_cons] at ih ⊢
    rw [evalCommit_add, ih]

/-- If every deal sent to participant `j` passed the verification equation
against its dealer's broadcast commitments, then `j`'s final share lies on the sum of the
commitment vectors — the public polynomial every participant computes and announces. -/
theorem share_on_pubpoly (g : G) (x : F) (deals : List (F × List G))
    (hverified : ∀ d ∈ deals, d.1 • g = evalCommit d.2 x) :
    (deals.map (·.1)).sum • g = evalCommit (sumCommits (deals.map (·.2))) x := by
  rw [evalCommit_sum, List.sum_smul]
  simp only [List.map_map]
  congr 1
  apply List.map_congr_left
  intro d hd
  exact hverified d hd

/-- honest dealers: the commitments of a coefficient list evaluate to the committed evaluation -/
theorem evalCommit_commit (cs : List F) (g : G) (x : F) :
    evalCommit (cs.map (fun c => c • g)) x = evalPoly cs x • g := by
  induction cs with
  | nil => simp [evalCommit, evalPoly]
  | cons c cs ih =>
    simp only [evalCommit, evalPoly, List.map_cons, List.foldr_cons] at ih ⊢
    rw [ih, add_smul, mul_smul]

theorem addCommit_nil (A : List G) : addCommit A [] = A := by cases A <;> rfl

theorem addCommit_comm (A B : List G) : addCommit A B = addCommit B A := by
  fun_induction addCommit A B with
  | case1 a as b bs ih => rw [addCommit, add_comm, ih]
  | case2 bs => rw [addCommit_nil]
  | case3 as _ => rw [addCommit]

theorem addCommit_assoc (A B C : List G) : addCommit (addCommit A B) C = addCommit A (addCommit B C) := by
  fun_induction addCommit A B generalizing C with
  | case1 a as b bs ih => cases C with
    | nil => rfl
    | cons c cs => simp only [addCommit, add_assoc, ih]
  | case2 bs => rfl
  | case3 as _ => cases C <;> rfl

/-- The public polynomial does not depend on the order in which the
dealers' commitments were delivered -/
theorem pubpoly_order_indep (Cs Cs' : List (List G)) (h : Cs.Perm Cs') : sumCommits Cs = sumCommits Cs' := by
  have : LeftCommutative (addCommit (G := G)) :=
    ⟨fun A B C => by rw [← addCommit_assoc, addCommit_comm A B, addCommit_assoc]⟩
  exact h.foldr_eq []

theorem addCommit_length (A B : List G) : (addCommit A B).length = max A.length B.length := by
  fun_induction addCommit A B with
  | case1 a as b bs ih => simp [ih]
  | case2 bs => simp
  | case3 as _ => simp

/-- **degree**: with `t` commitments per dealer the public polynomial has exactly `t` commitments -/
theorem sumCommits_length (t : ℕ) (Cs : List (List G)) (hne : Cs ≠ []) (hlen : ∀ C ∈ Cs, C.length = t) :
    (sumCommits Cs).length = t := by
  induction Cs with
  | nil => exact absurd rfl hne
  | cons C Cs ih =>
    rw [sumCommits, List.foldr_cons, addCommit_length, hlen C (List.mem_cons_self ..)]
    cases Cs with
    | nil => simp
    | cons D Ds =>
      rw [← sumCommits, ih (List.cons_ne_nil _ _) (fun C' hC' => hlen C' (List.mem_cons_of_mem _ hC')), max_self]

/-- the group key (constant term of the public polynomial) is the sum of the dealers' constant commitments -/
theorem group_key (Cs : List (List G)) : evalCommit (sumCommits Cs) (0 : F) = (Cs.map (fun C => evalCommit C (0 : F))).sum :=
  evalCommit_sum Cs 0

/-- For any `t−1` pairwise distinct non-zero nodes, any values seen at
them and ANY candidate secret `s` there is a polynomial of degree `< t` through those values with
`f(0) = s`: `t−1` shares are consistent with every secret, so no function of them is the secret. -/
theorem t_minus_one_insufficient (xs : List F) (hnd : xs.Nodup) (h0 : (0 : F) ∉ xs) (ys : F → F) (s : F) :
    ∃ f : F[X], f.degree < ((xs.length + 1 : ℕ) : WithBot ℕ) ∧ f.eval 0 = s ∧ ∀ x ∈ xs, f.eval x = ys x := by
  let S : Finset F := insert 0 xs.toFinset
  let r : F → F := fun x => if x = 0 then s else ys x
  have hinj : Set.InjOn (id : F → F) (S : Set F) := fun _ _ _ _ h => h
  have hcard : S.card = xs.length + 1 := by
    rw [Finset.card_insert_of_notMem (by simpa using h0), List.toFinset_card_of_nodup hnd]
  refine ⟨Lagrange.interpolate S id r, ?_, ?_, ?_⟩
  · have := Lagrange.degree_interpolate_lt (s := S) (v := id) r hinj
    rwa [hcard] at this
  · have := Lagrange.eval_interpolate_at_node (s := S) (v := id) (i := 0) r hinj (by simp [S])
    simpa [r] using this
  · intro x hx
    have hxS : x ∈ S := by simp [S, hx]
    have := Lagrange.eval_interpolate_at_node (s := S) (v := id) (i := x) r hinj hxS
    have hx0 : x ≠ 0 := fun h => h0 (h ▸ hx)
    simpa [r, hx0] using this

end

end Dc4bcVerif.Props.C02
