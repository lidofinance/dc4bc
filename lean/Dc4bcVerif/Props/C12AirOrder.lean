/-
  Go ranges over the map `d.deals` in `dkg.ProcessDeals`; `Model/AirDkg.lean` takes the order as an argument. Here:
  **the deals step does not depend on that order** — as far as anybody can tell from its answer and, when it is answered
  with responses, from the machine afterwards.

  * `processDeals_perm`: if the deals are examined successfully in one order, they are examined successfully in every
    permutation of it, the instance afterwards is THE SAME (literally), and the dealers answered are the same up to order.
  * `responses_order_irrelevant`: hence `responsesOp` with two orders that are permutations of each other: both refuse, or
    both answer with responses, the same machine afterwards, the same dealers up to order.
  (After a REFUSED step the instance does depend on the order - which deals were examined before the refusal; see the
  header of Props/C12Air.lean. The master-key step's range over `indexToData` is not treated here.)
-/
import Dc4bcVerif.Lemmas.AirDkgSteps

-- every statement carries all instance binders of the `variable` line, whether it uses them or not
set_option linter.unusedSectionVars false

namespace Dc4bcVerif.Props.C12AirOrder
open Dc4bcVerif.Model.Shamir Dc4bcVerif.Model.AirDkg Dc4bcVerif.Lemmas.AirDkgSteps

variable {F : Type} [Add F] [Mul F] [Sub F] [Div F] [Zero F] [One F] [DecidableEq F] [NatCast F]
variable {K : Type} [DecidableEq K]

/-- what `ProcessDeal` does to the one verifier it touches -/
def verStep (n pid : Nat) (v : Verifier F) (od : OuterDeal F) : Verifier F × Option Bool :=
  match processEncryptedDeal n pid v od.inner with
  | (v', none) => (v', none)
  | (v', some status) => (unsafeSet od.idx true v', some status)

theorem dkgProcessDeal_eq (i : Inst F K) (od : OuterDeal F) :
    dkgProcessDeal i od =
      if od.idx < i.keys.length ∧ od.sigOk = true then
        match i.vers[od.idx]? with
        | none => (i, none)
        | some v => ({ i with vers := i.vers.set od.idx (verStep i.keys.length i.pid v od).1 }, (verStep i.keys.length i.pid v od).2)
      else (i, none) := by
  unfold dkgProcessDeal verStep
  by_cases h1 : od.idx < i.keys.length
  · cases h2 : od.sigOk
    · simp [h1]
    · simp only [h1, decide_true, Bool.not_true, Bool.false_eq_true, if_false, and_self, if_true]
      cases i.vers[od.idx]? with
      | none => rfl
      | some v =>
        simp only
        generalize processEncryptedDeal i.keys.length i.pid v od.inner = q
        obtain ⟨v', _ | st⟩ := q <;> rfl
  · simp [h1]

theorem verStep_approves {n pid : Nat} {v : Verifier F} {od : OuterDeal F} :
    (verStep n pid v od).2 = some true ↔
      ∃ d, od.inner = some d ∧ d.secI = pid ∧ v.deal = none ∧ lookupN pid v.resp = none ∧
        validT d.thr n = true ∧ d.secI < n ∧ evalPoly d.commits (node d.secI) = d.secV := by
  unfold verStep
  generalize hq : processEncryptedDeal n pid v od.inner = q
  obtain ⟨v', _ | st⟩ := q
  · simp only [reduceCtorEq, false_iff]
    rintro ⟨d, h1, h2, h3, h4, h5⟩
    have := (processEncryptedDeal_some (st := true)).mpr ⟨d, h1, h2, h3, h4, rfl, fun _ => h5, fun _ => rfl⟩
    rw [hq] at this; cases this
  · obtain ⟨d, h1, h2, h3, h4, -, h5⟩ := processEncryptedDeal_some.mp hq
    simp only [Option.some.injEq]
    exact ⟨fun e => ⟨d, h1, h2, h3, h4, h5.mp e⟩, fun ⟨d', h1', _, _, _, h5'⟩ => by rw [h1] at h1'; cases h1'; exact h5.mpr h5'⟩

theorem verStep_deal {n pid : Nat} {v : Verifier F} {od : OuterDeal F} (h : (verStep n pid v od).2 = some true) :
    (verStep n pid v od).1.deal.isSome = true := by
  unfold verStep at h ⊢
  generalize hq : processEncryptedDeal n pid v od.inner = q at h ⊢
  obtain ⟨v', _ | st⟩ := q
  · cases h
  · obtain ⟨d, _, _, _, _, rfl, _⟩ := processEncryptedDeal_some.mp hq
    rw [unsafeSet_deal]; rfl

/-- a deal examined once is refused the second time (`errDealAlreadyProcessed`) -/
theorem verStep_twice (n pid : Nat) (v : Verifier F) (od od2 : OuterDeal F) (h : (verStep n pid v od).2 = some true) :
    (verStep n pid (verStep n pid v od).1 od2).2 ≠ some true := by
  intro h2
  obtain ⟨_, _, _, hd, _⟩ := verStep_approves.mp h2
  have := verStep_deal h
  rw [hd] at this
  cases this

/-- one step of the loop, for a deal that is not the own one: `none` = refused -/
def step1 (i : Inst F K) (od : OuterDeal F) : Option (Inst F K) :=
  match dkgProcessDeal i od with
  | (_, none) => none
  | (i', some status) => if !status || !dealCommitsOk i' od then none else some i'

theorem step1_eq_some {i i' : Inst F K} {od : OuterDeal F} :
    step1 i od = some i' ↔ od.idx < i.keys.length ∧ od.sigOk = true ∧ ∃ v, i.vers[od.idx]? = some v ∧
      (verStep i.keys.length i.pid v od).2 = some true ∧ dealCommitsOk i od = true ∧
      i' = { i with vers := i.vers.set od.idx (verStep i.keys.length i.pid v od).1 } := by
  unfold step1
  rw [dkgProcessDeal_eq]
  by_cases hg : od.idx < i.keys.length ∧ od.sigOk = true
  · rw [if_pos hg]
    cases hv : i.vers[od.idx]? with
    | none => simp
    | some v =>
      -- `dealCommitsOk` does not read the verifiers
      have e : dealCommitsOk { i with vers := i.vers.set od.idx (verStep i.keys.length i.pid v od).1 } od = dealCommitsOk i od := rfl
      rcases hr : (verStep i.keys.length i.pid v od).2 with _ | _ | _
      · simp [hr]
      · simp [hr]
      · -- approved: what is left of both sides is the test of the commitments and the instance, written `a = i'` and `i' = a`
        simp only [hr, hg, e, Option.some.injEq, exists_eq_left', true_and]
        cases dealCommitsOk i od <;> simp [eq_comm]
  · rw [if_neg hg]
    exact ⟨nofun, fun h => absurd ⟨h.1, h.2.1⟩ hg⟩

theorem step1_fst {i i' : Inst F K} {od : OuterDeal F} (h : step1 i od = some i') : ∃ vers, i' = { i with vers := vers } := by
  obtain ⟨_, _, v, _, _, _, rfl⟩ := step1_eq_some.mp h
  exact ⟨_, rfl⟩

theorem step1_comm {i i1 i2 : Inst F K} {a b : OuterDeal F} (h1 : step1 i a = some i1) (h2 : step1 i1 b = some i2) :
    ∃ j1, step1 i b = some j1 ∧ step1 j1 a = some i2 := by
  obtain ⟨ha1, hsa, va, hva, hra, hca, rfl⟩ := step1_eq_some.mp h1
  obtain ⟨hb1, hsb, vb, hvb, hrb, hcb, rfl⟩ := step1_eq_some.mp h2
  simp only at hb1 hvb hrb
  -- the two deals name different dealers: otherwise the second would have been "already processed"
  have hne : a.idx ≠ b.idx := by
    intro he
    rw [← he, List.getElem?_set_self (List.getElem?_eq_some_iff.mp hva).1] at hvb
    cases hvb
    exact verStep_twice _ _ va a b hra hrb
  rw [List.getElem?_set_ne hne] at hvb
  refine ⟨_, step1_eq_some.mpr ⟨hb1, hsb, vb, hvb, hrb, ?_, rfl⟩, step1_eq_some.mpr ⟨ha1, hsa, va, ?_, hra, ?_, ?_⟩⟩
  · exact hcb
  · simpa only [List.getElem?_set_ne hne.symm] using hva
  · exact hca
  · simp only [List.set_comm _ _ hne]

/-- the deal a name stands for in the loop, if it is examined at all -/
def effective (i : Inst F K) (name : String) : Option (OuterDeal F) :=
  match lookup name i.deals with
  | none => none
  | some od => if od.idx = i.pid then none else some od

/-- the loop without the list of dealers answered -/
def loop (i : Inst F K) : List String → Option (Inst F K)
  | [] => some i
  | name :: rest =>
    match effective i name with
    | none => loop i rest
    | some od => match step1 i od with
      | none => none
      | some i' => loop i' rest

def answered (i : Inst F K) (ord : List String) : List Nat := (ord.filterMap (effective i)).map (·.idx)

theorem effective_eq_some {i : Inst F K} {name : String} {od : OuterDeal F} :
    effective i name = some od ↔ lookup name i.deals = some od ∧ od.idx ≠ i.pid := by
  unfold effective
  cases lookup name i.deals with
  | none => simp
  | some od0 =>
    simp only [Option.some.injEq]
    split
    · rename_i h; simp only [reduceCtorEq, false_iff]; rintro ⟨rfl, hne⟩; exact hne h
    · rename_i h; simp only [Option.some.injEq]; exact ⟨fun e => ⟨e, e ▸ h⟩, fun e => e.1⟩

theorem processDeals_eq_some (ord : List String) : ∀ {i i' : Inst F K} {acc ds : List Nat},
    processDeals i ord acc = (i', some ds) ↔ loop i ord = some i' ∧ ds = acc ++ answered i ord := by
  intro i i' acc ds
  fun_induction processDeals i ord acc
  case case1 => simp [loop, answered, eq_comm]
  -- a name without a deal, the own deal: `effective` gives nothing
  case case2 h ih => simpa [loop, answered, effective, h] using ih
  case case3 h hp ih => simpa [loop, answered, effective, h, hp] using ih
  -- the step is refused: by the vss layer, or for want of an approval or of the broadcast commitments
  case case4 h hp _ e => simp [loop, effective, h, hp, step1, e]
  case case5 h hp _ _ e hs => simp [loop, effective, h, hp, step1, hs, e]
  -- the step goes through; `effective` does not read the verifiers it wrote
  case case6 i _ rest _ od h hp i1 _ e hs ih =>
    have ea : answered i1 rest = answered i rest := by
      obtain ⟨_, hv⟩ := dkgProcessDeal_fst i od
      rw [hs] at hv; cases hv; rfl
    rw [ea] at ih
    simpa [loop, answered, effective, h, hp, step1, hs, e] using ih

def steps (i : Inst F K) : List (OuterDeal F) → Option (Inst F K)
  | [] => some i
  | od :: rest => (step1 i od).bind (steps · rest)

theorem loop_eq_steps (ord : List String) : ∀ i : Inst F K, loop i ord = steps i (ord.filterMap (effective i)) := by
  induction ord with
  | nil => exact fun i => rfl
  | cons name rest ih =>
    intro i
    unfold loop
    rw [List.filterMap_cons]
    cases effective i name with
    | none => exact ih i
    | some od =>
      simp only [steps]
      cases hs : step1 i od with
      | none => rfl
      | some i1 => obtain ⟨_, rfl⟩ := step1_fst hs; exact ih _

/-- also where a step is refused: `step1_comm` read in both directions -/
theorem step1_comm_eq (i : Inst F K) (a b : OuterDeal F) : (step1 i a).bind (step1 · b) = (step1 i b).bind (step1 · a) := by
  have key : ∀ a b i2, (step1 i a).bind (step1 · b) = some i2 → (step1 i b).bind (step1 · a) = some i2 := by
    intro a b i2 h
    obtain ⟨i1, h1, h2⟩ := Option.bind_eq_some_iff.mp h
    obtain ⟨j1, h3, h4⟩ := step1_comm h1 h2
    exact Option.bind_eq_some_iff.mpr ⟨j1, h3, h4⟩
  exact Option.ext fun i2 => ⟨key a b i2, key b a i2⟩

/-- the steps as a fold, the form in which `List.Perm.foldl_eq'` speaks of them -/
theorem steps_eq_foldl (l : List (OuterDeal F)) : ∀ o : Option (Inst F K),
    o.bind (steps · l) = l.foldl (fun o od => o.bind (step1 · od)) o := by
  induction l with
  | nil => exact Option.bind_fun_some
  | cons od rest ih =>
    intro o
    rw [List.foldl_cons, ← ih]
    cases o <;> rfl

theorem steps_perm {l1 l2 : List (OuterDeal F)} (hp : l1.Perm l2) (i : Inst F K) : steps i l1 = steps i l2 :=
  (steps_eq_foldl l1 (some i)).trans <| (hp.foldl_eq' (fun a _ b _ o => by
    cases o with
    | none => rfl
    | some j => exact step1_comm_eq j a b) _).trans (steps_eq_foldl l2 (some i)).symm

/-- refused in both orders or gone through in both, with the same instance -/
theorem loop_perm_eq {l1 l2 : List String} (hp : l1.Perm l2) (i : Inst F K) : loop i l1 = loop i l2 := by
  rw [loop_eq_steps, loop_eq_steps, steps_perm (hp.filterMap _)]

theorem loop_perm {l1 l2 : List String} (hp : l1.Perm l2) : ∀ (i i' : Inst F K), loop i l1 = some i' → loop i l2 = some i' :=
  fun i _ h => loop_perm_eq hp i ▸ h

theorem processDeals_perm {l1 l2 : List String} (hp : l1.Perm l2) (i i' : Inst F K) (ds : List Nat)
    (h : processDeals i l1 [] = (i', some ds)) :
    ∃ ds', processDeals i l2 [] = (i', some ds') ∧ ds'.Perm ds := by
  obtain ⟨hl, rfl⟩ := (processDeals_eq_some l1).mp h
  exact ⟨_, (processDeals_eq_some l2).mpr ⟨loop_perm hp i i' hl, rfl⟩, List.nil_append _ ▸ ((hp.filterMap _).map _).symm⟩

/-- Two ranges over the same stored deals: the step is refused in both or answered in both,
with the same machine afterwards and the same dealers up to order. -/
theorem responses_order_irrelevant (m : Machine F K) (round : String) (entries : List (Int × String × Option (OuterDeal F)))
    {l1 l2 : List String} (hp : l1.Perm l2) (m' : Machine F K) (pid : Nat) (ds : List Nat)
    (h : responsesOp m round entries l1 = (m', Res.responses pid ds)) :
    ∃ ds', responsesOp m round entries l2 = (m', Res.responses pid ds') ∧ ds'.Perm ds := by
  obtain ⟨i, i2, hi, hs, hp1, rfl, rfl⟩ := responsesOp_ok.mp h
  obtain ⟨ds', hp2, hperm⟩ := processDeals_perm hp _ i2 ds hp1
  exact ⟨ds', responsesOp_ok.mpr ⟨i, i2, hi, hs, hp2, rfl, rfl⟩, hperm⟩

end Dc4bcVerif.Props.C12AirOrder
