/-
  C19 — persisting and restoring a round at any point never changes its behaviour.

  Model: `Instance` (machine picked by the pool, machine state, dump state, payload),
  `Instance.restore` = `FromDump` (pool lookup by state name + `MustCopyWithState`),
  `Instance.doEv` = `FSMInstance.Do`. The JSON text of the dump is modelled as the identity on
  the payload (validated by `fsmdiff`, which dumps and restores between every two events).
-/
import Dc4bcVerif.Lemmas.Pool

namespace Dc4bcVerif.Props.C19
open Dc4bcVerif.Gen Dc4bcVerif.Model

/-- the tables the code is built from do not make `MustNewFSM` / `fsm_pool.Init` panic -/
theorem pool_wellFormed : poolWellFormed = true := by decide

/-- states at which the node hands the round over to the next machine (a fin state of one
machine that is the initial state of another) -/
def handOver (s : St) : Bool :=
  allMachines.any (fun m => isFinState m s) && allMachines.any (fun m => (sourceStates m).contains s)

/-- `restore_total`, table part: the pool knows a machine for *every* state name that occurs in
any of the three tables — sources and terminal (cancelled / finished) states alike. -/
theorem pool_total (s : St) : (poolState s).isSome = true := by
  rw [poolState_eq]; rfl

/-- … and the machine it picks lists that state (so `MustCopyWithState` does not panic). -/
theorem pool_state_known (s : St) (mid : MachineId) (h : poolState s = some mid) :
    (sourceStates (machineOf mid)).contains s = true ∨ isFinState (machineOf mid) s = true := by
  unfold poolState poolStateWith at h
  split at h
  · rename_i m hf
    cases h
    rw [machineOf_id (List.mem_of_find?_eq_some hf)]
    exact Or.inl (List.find?_some (p := fun m => (sourceStates m).contains s) hf)
  · split at h
    · rw [Option.map_eq_some_iff] at h
      obtain ⟨m, hf, rfl⟩ := h
      rw [machineOf_id (List.mem_of_find?_eq_some hf)]
      exact Or.inr (List.find?_some (p := fun m => isFinState m s) hf)
    · cases h

/-- `restore_total`: every dump whose state field is a state name restores; in particular every
dump produced by a successful `Do` (see `ok_dump_state`). -/
theorem restore_total (s : St) (p : Payload) : (Instance.restore (some s) p).isSome = true := by
  rw [restore_eq]; rfl

theorem ok_dump_state (i : Instance) (e : Ev) (a : Arg)
    (hok : (i.doEv e a).2.res = .ok) :
    (i.doEv e a).1.dumpState = some (i.doEv e a).1.state := by
  rw [doEv_fst hok]

/-- the hand-over states are exactly the two the node glue treats by hand -/
theorem handOver_states (s : St) : handOver s = true ↔
    (s = .s_state_sig_proposal_collected ∨ s = .s_state_dkg_master_key_collected) := by
  cases s <;> decide

theorem rows_stay (mid : MachineId) : ∀ d ∈ (machineOf mid).events,
    owner d.dst = mid ∨ d.dst = .s_state_sig_proposal_collected ∨ d.dst = .s_state_dkg_master_key_collected := by
  cases mid <;> decide

/-- `restore_bisim`: dump + restore after a successful event gives back *the same instance*
(same machine, same state, same payload), except at the two hand-over states, where it gives the
next machine (which is what the node relies on). Equal instances respond equally to every
subsequent event, so restoring at any subset of points is unobservable. -/
theorem restore_bisim (i : Instance) (e : Ev) (a : Arg)
    (hc : poolState i.state = some i.machine)
    (hok : (i.doEv e a).2.res = .ok)
    (hno : handOver (i.doEv e a).1.state = false) :
    Instance.restore (i.doEv e a).1.dumpState (i.doEv e a).1.payload = some (i.doEv e a).1 := by
  rw [doEv_fst hok] at hno ⊢
  dsimp only at hno ⊢
  rw [restore_eq]
  -- the state is where it was, or at the destination of a row of the instance's machine
  rcases (doEvent_hops (machineOf i.machine) runAction i.state i.payload e a).dst with h | ⟨d, hm, hd⟩
  · rw [doEv_snd, h, ← owner_of_pool hc]
  · rw [doEv_snd, ← hd] at hno ⊢
    rcases rows_stay i.machine d hm with h | h
    · rw [h]
    · rw [(handOver_states d.dst).mpr h] at hno; cases hno

/-- consequence spelled out: the restored instance answers the next event exactly as the
in-memory one (acceptance, next state, response data, resulting dump) -/
theorem restored_responds_equally (i : Instance) (e : Ev) (a : Arg) (e' : Ev) (a' : Arg)
    (hc : poolState i.state = some i.machine)
    (hok : (i.doEv e a).2.res = .ok)
    (hno : handOver (i.doEv e a).1.state = false) :
    ∃ r, Instance.restore (i.doEv e a).1.dumpState (i.doEv e a).1.payload = some r ∧
      r.doEv e' a' = (i.doEv e a).1.doEv e' a' :=
  ⟨_, restore_bisim i e a hc hok hno, rfl⟩

/-- the consistency premise is an invariant: it holds for a created round and after every
restore, whatever was restored -/
theorem create_consistent (id : String) : poolState (Instance.create id).state = some (Instance.create id).machine :=
  poolState_eq _

theorem restore_consistent (ds : Option St) (p : Payload) (r : Instance)
    (h : Instance.restore ds p = some r) : poolState r.state = some r.machine := by
  cases ds with
  | none => cases h
  | some s =>
    obtain ⟨m, hm, rfl⟩ := Option.map_eq_some_iff.mp h
    exact hm

theorem persistStep_ok_shape (i : Instance) (ea : Ev × Arg) (hok : (i.doEv ea.1 ea.2).2.res = .ok) :
    ∃ m, poolState (i.doEv ea.1 ea.2).1.state = some m ∧
      persistStep i ea = { machine := m, state := (i.doEv ea.1 ea.2).1.state,
                           dumpState := some (i.doEv ea.1 ea.2).1.state, payload := (i.doEv ea.1 ea.2).1.payload } :=
  (persistStep_cases i ea).elim (fun h => absurd hok h.1) (fun h => ⟨_, poolState_eq _, h.2⟩)

theorem persistStep_not_ok (i : Instance) (ea : Ev × Arg) (h : (i.doEv ea.1 ea.2).2.res ≠ .ok) :
    persistStep i ea = i :=
  (persistStep_cases i ea).elim (·.2) (fun h' => absurd h'.1 h)

/-- non-vacuity: a cancelled round (one decline) is a reachable instance that restores -/
example : (Instance.restore (some .s_state_sig_proposal_canceled_by_participant) { dkgId := "r" }).isSome = true :=
  restore_total _ _

end Dc4bcVerif.Props.C19
