/-
  C16 — the file bulletin board is an append-only, gap-free, totally ordered log.
-/
import Dc4bcVerif.Model.Board

namespace Dc4bcVerif.Props.C16
open Dc4bcVerif.Model.Board

/-- the generated limits: counting uses at least the reader's line limit -/
theorem count_limit_covers_reader : genCfg.readLimit ≤ genCfg.countLimit := by decide

/-- well-formed log: every line is one the reader accepts and carries its own position -/
def Good (cfg : Cfg) (file : List Entry) : Prop :=
  (∀ e ∈ file, fits cfg.readLimit e = true) ∧ ∀ k (h : k < file.length), file[k].offset = k

theorem fits_mono {L L' : Nat} (h : L ≤ L') {e : Entry} (he : fits L e = true) : fits L' e = true := by
  unfold fits at *; simp only [decide_eq_true_eq] at *; omega

theorem countLines_all {L : Nat} {file : List Entry} (h : ∀ e ∈ file, fits L e = true) :
    countLines L file = file.length := by
  unfold countLines
  induction file with
  | nil => rfl
  | cons x t ih =>
    have hx := h x (List.mem_cons_self ..)
    simp only [List.takeWhile_cons, hx, ↓reduceIte, List.length_cons]
    rw [ih (fun e he => h e (List.mem_cons_of_mem _ he))]

theorem good_send (cfg : Cfg) (hl : cfg.readLimit ≤ cfg.countLimit) (file : List Entry) (id : String) (size : Nat)
    (hg : Good cfg file) (hs : size + 1 ≤ cfg.readLimit) : Good cfg (send cfg file id size) := by
  obtain ⟨hfit, hoff⟩ := hg
  have hc : countLines cfg.countLimit file = file.length :=
    countLines_all (fun e he => fits_mono hl (hfit e he))
  unfold send
  rw [hc]
  constructor
  · intro e he
    rw [List.mem_append] at he
    rcases he with he | he
    · exact hfit e he
    · simp only [List.mem_singleton] at he; subst he; simp [fits, hs]
  · intro k hk
    by_cases hlt : k < file.length
    · rw [List.getElem_append_left hlt]; exact hoff k hlt
    · have hk' : k = file.length := by simp at hk; omega
      subst hk'
      simp

/-- **offset_eq_position / gap_free.** For every history of sends (any number of writers, any
interleaving) of messages the reader accepts, every entry of the log carries exactly its position:
offsets run 0, 1, 2, … without gaps or repeats. -/
theorem offset_eq_position (cfg : Cfg) (hl : cfg.readLimit ≤ cfg.countLimit) (hist : List (String × Nat))
    (hs : ∀ m ∈ hist, m.2 + 1 ≤ cfg.readLimit) :
    ∀ k (h : k < (sends cfg [] hist).length), (sends cfg [] hist)[k].offset = k := by
  suffices H : ∀ file, Good cfg file → Good cfg (sends cfg file hist) from
    (H [] ⟨fun e he => (by cases he), fun k hk => (by cases hk)⟩).2
  induction hist with
  | nil => intro file hg; exact hg
  | cons m rest ih =>
    intro file hg
    obtain ⟨id, size⟩ := m
    exact ih (fun m hm => hs m (List.mem_cons_of_mem _ hm)) _
      (good_send cfg hl file id size hg (hs (id, size) (List.mem_cons_self ..)))

theorem offset_eq_position_code (hist : List (String × Nat)) (hs : ∀ m ∈ hist, m.2 + 1 ≤ genCfg.readLimit) :
    ∀ k (h : k < (sends genCfg [] hist).length), (sends genCfg [] hist)[k].offset = k :=
  offset_eq_position genCfg count_limit_covers_reader hist hs

theorem sends_eq (cfg : Cfg) (file : List Entry) (hist : List (String × Nat)) :
    ∃ tail, sends cfg file hist = file ++ tail ∧ tail.map (fun e => (e.id, e.size)) = hist := by
  induction hist generalizing file with
  | nil => exact ⟨[], (List.append_nil _).symm, rfl⟩
  | cons m rest ih =>
    obtain ⟨tail, ht, hm⟩ := ih (send cfg file m.1 m.2)
    exact ⟨_ :: tail, by rw [sends, ht, send, List.append_assoc]; rfl, by rw [List.map_cons, hm]⟩

/-- Earlier contents are a prefix of later contents; nothing already written changes -/
theorem append_only (cfg : Cfg) (file : List Entry) (hist : List (String × Nat)) :
    ∃ tail, sends cfg file hist = file ++ tail :=
  (sends_eq cfg file hist).imp fun _ h => h.1

/-- One line per send, in send order, with the sender's id and size -/
theorem exactly_once (cfg : Cfg) (file : List Entry) (hist : List (String × Nat)) :
    (sends cfg file hist).length = file.length + hist.length ∧
    ((sends cfg file hist).drop file.length).map (fun e => (e.id, e.size)) = hist := by
  obtain ⟨tail, ht, hm⟩ := sends_eq cfg file hist
  rw [ht, List.length_append, List.drop_left, hm, ← hm, List.length_map]
  exact ⟨rfl, rfl⟩

/-- Reading from offset `k` returns exactly the entries from position `k` on, in
order, minus the ignored ones — for every log made of messages the reader accepts -/
theorem read_suffix (cfg : Cfg) (file : List Entry) (hfit : ∀ e ∈ file, fits cfg.readLimit e = true)
    (k : Nat) (ignId : List String) (ignOff : List Nat) :
    getMessages cfg file k ignId ignOff =
      some ((file.drop k).filter (fun e => !(ignId.contains e.id) && !(ignOff.contains e.offset))) := by
  unfold getMessages
  have : file.all (fits cfg.readLimit) = true := by rw [List.all_eq_true]; exact hfit
  simp [this]

/-- why the limits matter: with a counting limit below the reader's (the tree as pinned had 64 KiB vs
1 MiB) the property is false — a 70 000-byte line freezes the counter -/
theorem small_count_limit_breaks_offsets :
    let cfg : Cfg := ⟨65536, 1048576⟩
    (sends cfg [] [("a", 1), ("b", 70000), ("c", 1), ("d", 1)]).map (·.offset) = [0, 1, 1, 1] := by
  decide

/-- non-vacuity of `offset_eq_position_code`: a history with a 70 000-byte message -/
example : (sends genCfg [] [("a", 1), ("b", 70000), ("c", 1), ("d", 1)]).map (·.offset) = [0, 1, 2, 3] := by
  decide

end Dc4bcVerif.Props.C16
