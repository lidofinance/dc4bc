/-
  C15 — only unaltered answers to operations the node issued reach the board, once.
  Model: `Node.executeOperation`, `Node.approveParticipation`, the operation pool with tombstones.
-/
import Dc4bcVerif.Lemmas.NodeSteps

namespace Dc4bcVerif.Props.C15
open Dc4bcVerif.Gen Dc4bcVerif.Model Dc4bcVerif.Model.Node

theorem execGuard_some (st : NodeSt) (sub : SubOp) (stored : NOp) (h : execGuard st sub = some stored) :
    sub.event ≠ "" ∧ sub.idOf = some stored ∧ stored ∈ visibleOps st ∧ sub.typeSame = true ∧ sub.payloadSame = true := by
  revert h
  fun_cases execGuard st sub
  case case3 he s0 hid hc =>
    rintro ⟨⟩
    simp only [Bool.and_eq_true, List.contains_eq_mem, decide_eq_true_eq] at hc
    exact ⟨by simpa using he, hid, hc.1.1, hc.1.2, hc.2⟩
  all_goals nofun

theorem execReinit_posts_nothing (st : NodeSt) (sub : SubOp) (stored : NOp) : (execReinit st sub stored).posted = [] := by
  fun_cases execReinit st sub stored <;> rfl

/-- **posts_only_pending_equal.** Whatever is submitted, the node posts something only if the
submission has an event (is a result, not a request), carries the ID of an operation that is
pending in its own pool, and the `Type` and `Payload` bytes equal the stored ones. -/
theorem posts_only_pending_equal (st : NodeSt) (sub : SubOp) (h : (executeOperation st sub).posted ≠ []) :
    sub.event ≠ "" ∧ ∃ stored, sub.idOf = some stored ∧ stored ∈ visibleOps st ∧
      sub.typeSame = true ∧ sub.payloadSame = true := by
  revert h
  fun_cases executeOperation st sub
  case case1 => exact fun h => absurd rfl h
  all_goals
    rename_i stored hg _
    obtain ⟨h1, h2⟩ := execGuard_some st sub stored hg
    exact fun _ => ⟨h1, stored, h2⟩

/-- **posted_exactly_result.** What is posted is the list of result messages of the submission — same
events, rounds, recipients and data, in order — each attributed to the node and signed with its key. -/
theorem posted_exactly_result (st : NodeSt) (sub : SubOp) (h : (executeOperation st sub).posted ≠ []) :
    (executeOperation st sub).posted = sub.resultMsgs.map (fun m => { m with sender := st.self, signedBySelf := true }) := by
  revert h
  fun_cases executeOperation st sub
  case case1 => exact fun h => absurd rfl h
  case case2 stored _ _ => fun_cases execPost st sub stored <;> exact fun _ => rfl
  case case3 stored _ _ => exact fun h => absurd (execReinit_posts_nothing st sub stored) h

/-- **no_resurrection**: an operation with a tombstone is never offered again, whatever is put later -/
theorem tombstoned_invisible (st : NodeSt) (op : NOp) (h : op ∈ st.deleted) : op ∉ visibleOps st := by
  unfold visibleOps
  simp [h]

theorem visible_after_delete (st st' : NodeSt) (op : NOp) (h : deleteOperation st op = some st') :
    op ∉ visibleOps st' ∧ op ∈ st'.deleted := by
  have hd : op ∈ st'.deleted := by rw [deleteOperation_deleted h]; exact List.mem_append_right _ (List.mem_singleton_self op)
  exact ⟨tombstoned_invisible st' op hd, hd⟩

/-- **retired_once**, first half: an accepted answer retires the operation — it is no longer pending
and carries a tombstone -/
theorem retired_after_ok (st : NodeSt) (sub : SubOp)
    (hev : sub.event ≠ "operation_processed_successfully")
    (hok : (executeOperation st sub).out = .ok) :
    ∃ stored, sub.idOf = some stored ∧
      stored ∉ visibleOps (executeOperation st sub).st ∧ stored ∈ (executeOperation st sub).st.deleted := by
  revert hok
  fun_cases executeOperation st sub
  case case1 => nofun
  case case2 stored hg _ =>
    fun_cases execPost st sub stored
    case case1 st' hd => exact fun _ => ⟨stored, (execGuard_some st sub stored hg).2.1, visible_after_delete st st' stored hd⟩
    case case2 => nofun
  case case3 hne => exact absurd (by simpa using hev) hne

/-- **retired_once**, second half: an operation with a tombstone is invisible, so submitting it again
(the same result, a duplicate, a reordered copy) is rejected, posts nothing and changes nothing -/
theorem tombstoned_rejected (st : NodeSt) (sub : SubOp) (stored : NOp) (hid : sub.idOf = some stored)
    (hdel : stored ∈ st.deleted) :
    (executeOperation st sub).out = .reject ∧ (executeOperation st sub).posted = [] ∧ (executeOperation st sub).st = st := by
  have hg : execGuard st sub = none := by
    cases hgg : execGuard st sub with
    | none => rfl
    | some s0 =>
      obtain ⟨_, h2, h3, _, _⟩ := execGuard_some st sub s0 hgg
      rw [hid] at h2; cases h2
      unfold visibleOps at h3
      simp [hdel] at h3
  unfold executeOperation
  simp [hg]

theorem deleted_mono_delete (st st' : NodeSt) (op o : NOp) (h : o ∈ st.deleted) (hd : deleteOperation st op = some st') :
    o ∈ st'.deleted := by
  rw [deleteOperation_deleted hd]
  exact List.mem_append_left _ h

/-- tombstones are never removed: by answering operations … -/
theorem deleted_mono_exec (st : NodeSt) (sub : SubOp) (op : NOp) (h : op ∈ st.deleted) :
    op ∈ (executeOperation st sub).st.deleted := by
  fun_cases executeOperation st sub
  · exact h
  · fun_cases execPost st sub _
    · exact deleted_mono_delete _ _ _ _ h ‹_›
    · exact h
  · -- the last step: `saveFSM` leaves the tombstones alone, then the operation is retired
    fun_cases execReinit st sub _
    all_goals first | exact h | exact deleted_mono_delete _ _ _ _ (show op ∈ (saveFSM st _ _).deleted from h) ‹_›

/-- … nor by putting operations -/
theorem deleted_mono_put (st st' : NodeSt) (op o : NOp) (h : o ∈ st.deleted) (hp : putOperation st op = some st') :
    o ∈ st'.deleted := by
  cases putOperation_some hp
  exact h

end Dc4bcVerif.Props.C15
