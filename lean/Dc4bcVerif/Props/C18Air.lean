/-
  C18 / C12, airgapped machine: an operation whose handling fails fatally (`ProcessOperation` returns an error: the handler
  failed and no error result could be built) leaves the DURABLE state — the operation log — as it was, because the log is
  written after the handler has returned (`order_in_source_air`, read off airgapped.go on every run). Hence a restart
  after such an operation rebuilds exactly the state a restart before it would have rebuilt (`fatal_then_restart`).
  With the log written first (`logFirst`), one malformed operation file makes every later replay fail
  (`log_first_poisons_replay`).
-/
import Dc4bcVerif.Model.Air
import Dc4bcVerif.Model.Instance
import Dc4bcVerif.Gen.AirGlue

namespace Dc4bcVerif.Model.AirF
open Dc4bcVerif.Model.Air

variable {V Op R : Type}

/-- a handler that can fail fatally: `none` = `ProcessOperation` returns an error (no result file) -/
abbrev HF (V Op R : Type) := Option V → Op → Option V × Option R

inductive Step where
  | handle | log
  deriving DecidableEq, Repr

/-- the order of `ProcessOperation` after the pinned tree and after every fix so far -/
def handleFirst : List Step := [.handle, .log]
/-- the order of seed C18b -/
def logFirst : List Step := [.log, .handle]

/-- `ProcessOperation(op, storeOperation = true)` with the two steps in the given order; a fatal handler error returns at once -/
def processOpF (order : List Step) (h : HF V Op R) (logged : Op → Bool) (m : Machine V Op) (op : Op) : Machine V Op × Option R :=
  if order = handleFirst then
    match h m.inst op with
    | (v', none) => ({ m with inst := v' }, none)
    | (v', some r) => ({ inst := v', log := if logged op then m.log ++ [op] else m.log }, some r)
  else
    let m1 : Machine V Op := { m with log := if logged op then m.log ++ [op] else m.log }
    match h m.inst op with
    | (v', none) => ({ m1 with inst := v' }, none)
    | (v', some r) => ({ m1 with inst := v' }, some r)

/-- `ReplayOperationsLog`: stops with an error at the first operation that fails fatally -/
def replayF (h : HF V Op R) : Option V → List Op → Option (Option V)
  | v, [] => some v
  | v, op :: rest =>
    match h v op with
    | (_, none) => none
    | (v', some _) => replayF h v' rest

theorem fatal_leaves_log (h : HF V Op R) (logged : Op → Bool) (m : Machine V Op) (op : Op)
    (hf : (processOpF handleFirst h logged m op).2 = none) : (processOpF handleFirst h logged m op).1.log = m.log := by
  revert hf
  fun_cases processOpF handleFirst h logged m op
  case case1 => exact fun _ => rfl
  case case2 => nofun
  all_goals exact absurd rfl ‹_›

theorem fatal_then_restart (h : HF V Op R) (logged : Op → Bool) (m : Machine V Op) (op : Op)
    (hf : (processOpF handleFirst h logged m op).2 = none) :
    replayF h none (processOpF handleFirst h logged m op).1.log = replayF h none m.log := by
  rw [fatal_leaves_log h logged m op hf]

theorem accepted_log (h : HF V Op R) (logged : Op → Bool) (m : Machine V Op) (op : Op) (r : R)
    (hr : (processOpF handleFirst h logged m op).2 = some r) :
    (processOpF handleFirst h logged m op).1.log = if logged op then m.log ++ [op] else m.log := by
  revert hr
  fun_cases processOpF handleFirst h logged m op
  case case1 => nofun
  case case2 => exact fun _ => rfl
  all_goals exact absurd rfl ‹_›

/-- With the log written before the handler runs there is a handler, a machine and ONE
operation after which the log can never be replayed again: the machine cannot be started any more. -/
theorem log_first_poisons_replay :
    ∃ (h : HF Nat Nat Unit) (m : Machine Nat Nat) (op : Nat),
      replayF h none m.log ≠ none ∧
      (processOpF logFirst h (fun _ => true) m op).2 = none ∧
      replayF h none (processOpF logFirst h (fun _ => true) m op).1.log = none ∧
      replayF h none (processOpF handleFirst h (fun _ => true) m op).1.log ≠ none := by
  refine ⟨fun v op => if op = 0 then (v, none) else (some op, some ()), { inst := none, log := [1, 2] }, 0, ?_, ?_, ?_, ?_⟩ <;> decide

end Dc4bcVerif.Model.AirF

namespace Dc4bcVerif.Props.C18Air
open Dc4bcVerif.Gen Dc4bcVerif.Model

/-- the operation is handled, then logged, then the result file is opened -/
theorem order_in_source_air : AirGlue.processOrder = ["am.GetOperationResult", "am.storeOperation", "os.OpenFile"] := rfl

/-- the replay after a restart does not log the operations again -/
theorem replay_does_not_log : AirGlue.replayStoreArg = "false" := rfl

/-- a panic inside a handler (or the crypto below it) is turned into a handler error (fix b72c75b) -/
theorem dispatch_recovers : AirGlue.dispatchRecovers = true := rfl

/-- every dispatched protocol operation has an error event to report a failure with (the re-initialisation has none) -/
theorem handled_have_error_event : ∀ t ∈ AirGlue.handledTypes, t = "reinit_dkg" ∨ AirGlue.errorEvents.any (fun p => p.1 == t) = true := by
  decide +kernel

/-- the round machines accept that error event in the state the operation was issued in: for every entry of the map whose
state and event belong to the generated tables, some machine has a public row for it -/
def errorEventAccepted (p : String × String) : Bool :=
  match St.all.find? (fun s => s.name == p.1), Ev.all.find? (fun e => e.name == p.2) with
  | some s, some e => allMachines.any (fun m => (lookup m s e).any (fun tr => !tr.isInternal))
  | _, _ => true

/-- state and event an entry of the map names, where the generated tables know the names -/
def resolve (p : String × String) : Option St × Option Ev :=
  (St.all.find? (fun s => s.name == p.1), Ev.all.find? (fun e => e.name == p.2))

/-- `errorEventAccepted` on a resolved entry: `errorEventAccepted = acceptedAt ∘ resolve` by `rfl`, split so that the names are
compared once (`errorEvents_resolved`) -/
def acceptedAt (x : Option St × Option Ev) : Bool :=
  match x.1, x.2 with
  | some s, some e => allMachines.any (fun m => (lookup m s e).any (fun tr => !tr.isInternal))
  | _, _ => true

/-- The map resolved against the generated tables: the one place where names are compared (some 240 comparisons of
strings; with `+kernel` the elaborator does not evaluate them a second time). `signature_reconstruction_failed` is no
event of the machines. -/
theorem errorEvents_resolved : AirGlue.errorEvents.map resolve =
    [(some .s_state_dkg_commits_await_confirmations, some .e_event_dkg_commit_confirm_canceled_by_error),
     (some .s_state_dkg_deals_await_confirmations, some .e_event_dkg_deal_confirm_canceled_by_error),
     (some .s_state_dkg_master_key_await_confirmations, some .e_event_dkg_master_key_confirm_canceled_by_error),
     (some .s_state_dkg_responses_await_confirmations, some .e_event_dkg_response_confirm_canceled_by_error),
     (some .s_state_sig_proposal_await_participants_confirmations, some .e_event_sig_proposal_decline_by_participant),
     (some .s_state_signing_await_partial_signs, some .e_event_signing_partial_sign_error_received),
     (some .s_state_signing_partial_signs_collected, none)] := by decide +kernel

theorem error_events_accepted : AirGlue.errorEvents.all errorEventAccepted = true := by
  have h : errorEventAccepted = acceptedAt ∘ resolve := rfl
  rw [h, ← List.all_map, errorEvents_resolved]
  decide

/-- the phases of the key generation and the signing answers are among them (the check is not vacuous) -/
example : (AirGlue.errorEvents.filter (fun p => (St.all.find? (fun s => s.name == p.1)).isSome && (Ev.all.find? (fun e => e.name == p.2)).isSome)).length ≥ 5 := by
  show (AirGlue.errorEvents.filter ((fun x => x.1.isSome && x.2.isSome) ∘ resolve)).length ≥ 5
  rw [← List.length_map (f := resolve), ← List.filter_map, errorEvents_resolved]
  decide

end Dc4bcVerif.Props.C18Air
