/-
  How the hot node drives a round's FSM (client/services/node/node_service.go processMessage,
  client/services/fsmservice): restore the instance from the persisted dump, `Do` the event,
  persist the new dump only when `Do` succeeded.
-/
import Dc4bcVerif.Model.Instance

namespace Dc4bcVerif.Model
open Dc4bcVerif.Gen

/-- one event against the persisted round -/
def persistStep (i : Instance) (ea : Ev × Arg) : Instance :=
  let r := i.doEv ea.1 ea.2
  if r.2.res == .ok then (Instance.restore r.1.dumpState r.1.payload).getD r.1 else i

/-- any finite sequence of events (every event × every argument, accepted or not) -/
def run (i : Instance) (evs : List (Ev × Arg)) : Instance := evs.foldl persistStep i

theorem run_nil (i : Instance) : run i [] = i := rfl
theorem run_cons (i : Instance) (ea : Ev × Arg) (evs : List (Ev × Arg)) :
    run i (ea :: evs) = run (persistStep i ea) evs := rfl
theorem run_append (i : Instance) (l1 l2 : List (Ev × Arg)) : run i (l1 ++ l2) = run (run i l1) l2 := by
  unfold run; exact List.foldl_append

/-- a property preserved by every step holds after every run -/
theorem run_induction {Q : Instance → Prop} (hstep : ∀ i ea, Q i → Q (persistStep i ea))
    (i : Instance) (h : Q i) (evs : List (Ev × Arg)) : Q (run i evs) :=
  List.foldlRecOn evs _ h fun i h ea _ => hstep i ea h

end Dc4bcVerif.Model
