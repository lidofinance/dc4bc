/-
  Generic facts about the engine model (`Model/Fsm.lean`), independent of what the callbacks do. Whatever a callback
  returns, the machine's state only moves along rows of the table (`lookup_row`, `Hops`, `closedUnder`). The ways an auto
  step and a `Do` can end are stated once, as eliminators with one premise per way (`processAuto_cases`, `doEvent_cases`);
  `doEvent_hops`, `doEvent_ok_state`, what every `Do` keeps (`doEvent_good` and its readings) are read off them. Where the
  rows involved are known, `Do` is an equation (`doEvent_std`, `doTrAfter_auto`, `autoTail`): the phase files compute with
  these. Last, the state in which a machine starts (`entry_good`).
-/
import Dc4bcVerif.Model.Fsm

namespace Dc4bcVerif.Model
open Dc4bcVerif.Gen

variable {P R A X : Type} {m : MachineDesc} {act : ActionId → Ev → P → A → ActOut P R}

def Edge (m : MachineDesc) (s s' : St) : Prop := ∃ e tr, lookup m s e = some tr ∧ tr.dst = s'

/-- at most `k` table edges -/
inductive Hops (m : MachineDesc) : Nat → St → St → Prop where
  | refl (k : Nat) (s : St) : Hops m k s s
  | step {k : Nat} {s s' s'' : St} : Edge m s s' → Hops m k s' s'' → Hops m (k + 1) s s''

theorem Hops.mono {k : Nat} {s s' : St} (h : Hops m k s s') : Hops m (k + 1) s s' := by
  induction h with
  | refl k s => exact .refl _ _
  | step e _ ih => exact .step e ih

theorem setState_edge {s s' : St} {e : Ev} (h : setState m s e = some s') : Edge m s s' := by
  unfold setState at h
  cases hl : lookup m s e with
  | none => simp [hl] at h
  | some tr => simp [hl] at h; exact ⟨e, tr, hl, h⟩

theorem Hops.trans1 {k : Nat} {s s' s'' : St} (h1 : Hops m 1 s s') (h2 : Hops m k s' s'') :
    Hops m (k + 1) s s'' := by
  cases h1 with
  | refl => exact h2.mono
  | step e h0 => cases h0; exact .step e h2

theorem lookup_row {s : St} {e : Ev} {tr : Tr} (h : lookup m s e = some tr) :
    ∃ d ∈ m.events, d.name = e ∧ s ∈ d.src ∧ EventDesc.toTr d = tr := by
  unfold lookup at h
  rw [Option.map_eq_some_iff] at h
  obtain ⟨d, hf, hd⟩ := h
  have hp := List.find?_some hf
  simp only [Bool.and_eq_true, beq_iff_eq, List.contains_iff_mem] at hp
  exact ⟨d, List.mem_of_find?_eq_some hf, hp.1, hp.2, hd⟩

theorem Edge.row {s s' : St} (h : Edge m s s') : ∃ d ∈ m.events, s ∈ d.src ∧ d.dst = s' := by
  obtain ⟨e, tr, hl, hd⟩ := h
  obtain ⟨d, hm, _, hs, rfl⟩ := lookup_row hl
  exact ⟨d, hm, hs, hd⟩

theorem Hops.dst {k : Nat} {s s' : St} (h : Hops m k s s') : s' = s ∨ ∃ d ∈ m.events, d.dst = s' := by
  induction h with
  | refl => exact .inl rfl
  | step e _ ih =>
    rcases ih with rfl | ih
    · obtain ⟨d, hm, _, hd⟩ := e.row
      exact .inr ⟨d, hm, hd⟩
    · exact .inr ih

def rowsAll (m : MachineDesc) (R : St → St → Bool) : Bool := m.events.all (fun d => d.src.all (fun s => R s d.dst))

theorem rowsAll_edge {R : St → St → Bool} (h : rowsAll m R = true) {s s' : St} (he : Edge m s s') :
    R s s' = true := by
  obtain ⟨d, hm, hs, rfl⟩ := he.row
  exact List.all_eq_true.mp (List.all_eq_true.mp h d hm) s hs

def closedUnder (m : MachineDesc) (S : St → Bool) : Bool := rowsAll m (fun s s' => !S s || S s')

theorem closedUnder_hops {S : St → Bool} (h : closedUnder m S = true)
    {k : Nat} {s s' : St} (hh : Hops m k s s') (hs : S s = true) : S s' = true := by
  induction hh with
  | refl => exact hs
  | step e _ ih => exact ih (by simpa [hs] using rowsAll_edge h e)

theorem lookup_event {s : St} {e : Ev} {tr : Tr} (h : lookup m s e = some tr) : tr.event = e := by
  obtain ⟨d, _, hn, _, rfl⟩ := lookup_row h
  exact hn

/-- the result of an auto step that found no auto event of its mode in the state, the before-step and the after-step alike
(`processAuto_none`): nothing ran, nothing moved. Also the blank before-step on which the callback of an auto event is run
as if it were a main callback (`processAuto_cases`). -/
def noBefore (cur : St) (p : P) : AutoOut P R := ⟨false, none, none, .ok, cur, p⟩

theorem mainCallback_blank {tr : Tr} {cur : St} {p : P} {a : A} {aid : ActionId} (hcb : callbackOf m tr.event = some aid) :
    mainCallback m act tr (noBefore cur p) a = act aid tr.event p a := by
  unfold mainCallback; rw [hcb]; rfl

theorem mainCallback_blank_none {tr : Tr} {cur : St} {p : P} {a : A} (hcb : callbackOf m tr.event = none) :
    mainCallback m act tr (noBefore cur p) a = { payload := p } := by
  unfold mainCallback; rw [hcb]; rfl

section
variable (m) (act)

/-- The ways an auto step can end, one premise each: the state has no such auto event; or it has one, `au`, whose callback
(run like a main callback, on a blank before-step) returned `v`: then `v` refused, or accepted while its out-event (or
`au`) has no row from the state, or accepted and the machine moved. -/
theorem processAuto_cases {motive : AutoOut P R → Prop} (s : St) (p : P) (mode : Nat) (a : A)
    (absent : autoLookup m s mode = none → motive (noBefore s p))
    (refused : ∀ au r, autoLookup m s mode = some au →
      let v := mainCallback m act au (noBefore s p) a
      r ≠ .ok → v.res = r → motive ⟨true, none, v.data, r, s, v.payload⟩)
    (noRow : ∀ au, autoLookup m s mode = some au →
      let v := mainCallback m act au (noBefore s p) a
      v.res = .ok → setState m s (v.outEvent.getD au.event) = none → motive ⟨true, v.outEvent, v.data, .err, s, v.payload⟩)
    (moved : ∀ au s', autoLookup m s mode = some au →
      let v := mainCallback m act au (noBefore s p) a
      v.res = .ok → setState m s (v.outEvent.getD au.event) = some s' → motive ⟨true, v.outEvent, v.data, .ok, s', v.payload⟩) :
    motive (processAuto m act s p mode a) := by
  fun_cases processAuto m act s p mode a
  case case1 hau => exact absent hau
  case case2 au hau _ hv => exact refused au .panic hau nofun hv
  case case3 au hau _ hv => exact refused au .err hau nofun hv
  case case4 au hau _ hv s' hs => exact moved au s' hau hv hs
  case case5 au hau _ hv hs => exact noRow au hau hv hs

/-- The ways `Do` can end, one premise each: a route error; or the event has a public row `tr`, and with `b` the before-auto
step, `o` the main callback's result and `rs` the response state so far: `b` failed, `o` refused, `o`'s out-event (or the
event) has no row, or the machine moved to `s1` and the after-auto step there decides. -/
theorem doEvent_cases {motive : DoOut P R → Prop} (cur : St) (p : P) (e : Ev) (a : A)
    (route : (lookup m cur e).all (·.isInternal) = true → motive ⟨none, .err, cur, p⟩)
    (beforeFailed : ∀ tr, lookup m cur e = some tr → tr.isInternal = false →
      let b := processAuto m act cur p 1 a
      b.executed = true → b.res ≠ .ok → motive ⟨some (some b.state, b.data), b.res, b.state, b.payload⟩)
    (refused : ∀ tr, lookup m cur e = some tr → tr.isInternal = false →
      let b := processAuto m act cur p 1 a
      let o := mainCallback m act tr b a
      let rs : Option St := if b.executed then some b.state else none
      o.res ≠ .ok → motive ⟨some (rs, o.data), o.res, b.state, o.payload⟩)
    (noRow : ∀ tr, lookup m cur e = some tr → tr.isInternal = false →
      let b := processAuto m act cur p 1 a
      let o := mainCallback m act tr b a
      let rs : Option St := if b.executed then some b.state else none
      o.res = .ok → setState m b.state (o.outEvent.getD tr.event) = none → motive ⟨some (rs, o.data), .err, b.state, o.payload⟩)
    (moved : ∀ tr s1, lookup m cur e = some tr → tr.isInternal = false →
      let b := processAuto m act cur p 1 a
      let o := mainCallback m act tr b a
      let a2 := processAuto m act s1 o.payload 2 a
      o.res = .ok → setState m b.state (o.outEvent.getD tr.event) = some s1 →
      motive ⟨some (some a2.state, if a2.executed then pickData a2.data o.data else o.data), a2.res, a2.state, a2.payload⟩) :
    motive (doEvent m act cur p e a) := by
  fun_cases doEvent m act cur p e a
  case case1 hl => exact route (by rw [hl]; rfl)
  case case2 tr hl hi => exact route (by rw [hl]; exact hi)
  case case3 tr hl hi =>
    have hni : tr.isInternal = false := by simpa using hi
    fun_cases doTr m act cur p tr a
    case case1 hb =>
      rw [Bool.and_eq_true] at hb
      simpa +zetaDelta [hb.1] using beforeFailed tr hl hni hb.1 (by simpa using hb.2)
    case case2 ho => exact refused tr hl hni (by simpa using ho)
    case case3 ho =>
      have ho : (mainCallback m act tr (processAuto m act cur p 1 a) a).res = .ok := by simpa using ho
      fun_cases doTrAfter m act tr (processAuto m act cur p 1 a) (mainCallback m act tr (processAuto m act cur p 1 a) a) a
      case case1 hs => exact noRow tr hl hni ho hs
      case case2 s1 hs _ _ => exact moved tr s1 hl hni ho hs

theorem processAuto_hops (cur : St) (p : P) (mode : Nat) (a : A) : Hops m 1 cur (processAuto m act cur p mode a).state :=
  processAuto_cases (motive := fun b => Hops m 1 cur b.state) m act cur p mode a
    (absent := fun _ => .refl _ _) (refused := fun _ _ _ _ _ => .refl _ _) (noRow := fun _ _ _ _ => .refl _ _)
    (moved := fun _ _ _ _ hs => .step (setState_edge hs) (.refl _ _))

/-- `Do` moves the state along at most three table edges (before-auto, main, after-auto). -/
theorem doEvent_hops (cur : St) (p : P) (e : Ev) (a : A) : Hops m 3 cur (doEvent m act cur p e a).state :=
  have hb := processAuto_hops m act cur p 1 a
  doEvent_cases (motive := fun out => Hops m 3 cur out.state) m act cur p e a
    (route := fun _ => .refl _ _) (beforeFailed := fun _ _ _ _ _ => hb.mono.mono) (refused := fun _ _ _ _ => hb.mono.mono)
    (noRow := fun _ _ _ _ _ => hb.mono.mono)
    (moved := fun _ s1 _ _ _ hs => hb.trans1 (.step (setState_edge hs) (processAuto_hops m act s1 _ 2 a)))

theorem doEvent_ok_state (cur : St) (p : P) (e : Ev) (a : A) (h : (doEvent m act cur p e a).res = .ok) :
    ∃ d, (doEvent m act cur p e a).resp = some (some (doEvent m act cur p e a).state, d) :=
  doEvent_cases (motive := fun out => out.res = .ok → ∃ d, out.resp = some (some out.state, d)) m act cur p e a
    (route := nofun) (beforeFailed := fun _ _ _ _ hr h => absurd h hr) (refused := fun _ _ _ hr h => absurd h hr)
    (noRow := fun _ _ _ _ _ => nofun) (moved := fun _ _ _ _ _ _ _ => ⟨_, rfl⟩) h

end

theorem doEvent_route_noop (m : MachineDesc) (act : ActionId → Ev → P → A → ActOut P R)
    (cur : St) (p : P) (e : Ev) (a : A) (h : (doEvent m act cur p e a).resp = none) :
    (doEvent m act cur p e a).state = cur ∧ (doEvent m act cur p e a).payload = p :=
  doEvent_cases (motive := fun out => out.resp = none → out.state = cur ∧ out.payload = p) m act cur p e a
    (route := fun _ _ => ⟨rfl, rfl⟩) (beforeFailed := fun _ _ _ _ _ => nofun) (refused := fun _ _ _ _ => nofun)
    (noRow := fun _ _ _ _ _ => nofun) (moved := fun _ _ _ _ _ _ => nofun) h

theorem processAuto_none {cur : St} {p : P} {mode : Nat} {a : A} (h : autoLookup m cur mode = none) :
    processAuto m act cur p mode a = noBefore cur p := by
  unfold processAuto; simp [h, noBefore]

theorem mainCallback_noBefore {cur : St} {p : P} {e : Ev} {a : A} {tr : Tr} {aid : ActionId}
    (hl : lookup m cur e = some tr) (hcb : callbackOf m e = some aid) :
    mainCallback m act tr (noBefore cur p) a = act aid e p a := by
  rw [mainCallback_blank (lookup_event hl ▸ hcb), lookup_event hl]

theorem doEvent_std {cur : St} {p : P}
    {e : Ev} {a : A} {tr : Tr} {aid : ActionId}
    (hl : lookup m cur e = some tr) (hni : tr.isInternal = false)
    (hb : autoLookup m cur 1 = none) (hcb : callbackOf m e = some aid) :
    doEvent m act cur p e a =
      if (act aid e p a).res != .ok then
        ⟨some (none, (act aid e p a).data), (act aid e p a).res, cur, (act aid e p a).payload⟩
      else doTrAfter m act tr (noBefore cur p) (act aid e p a) a := by
  unfold doEvent
  simp only [hl, hni, Bool.false_eq_true, ↓reduceIte]
  unfold doTr
  simp only [processAuto_none hb, mainCallback_noBefore hl hcb]
  rfl

theorem doEvent_route {cur : St} {p : P}
    {e : Ev} {a : A} (h : (lookup m cur e).all (·.isInternal) = true) :
    doEvent m act cur p e a = ⟨none, .err, cur, p⟩ := by
  unfold doEvent
  cases hl : lookup m cur e with
  | none => rfl
  | some tr => simp [hl] at h; simp [h]

/-- the events that have a public row leaving `s`: all others are route errors in `s` -/
def publicFrom (m : MachineDesc) (s : St) : List Ev :=
  (m.events.filter (fun d => !d.isInternal && d.src.contains s)).map (·.name)

theorem lookup_internal_of_not_public {s : St} {e : Ev} (h : e ∉ publicFrom m s) :
    (lookup m s e).all (·.isInternal) = true := by
  cases hl : lookup m s e with
  | none => rfl
  | some tr =>
    obtain ⟨d, hm, rfl, hs, rfl⟩ := lookup_row hl
    cases hi : d.isInternal with
    | true => exact hi
    | false =>
      refine absurd (List.mem_map.mpr ⟨d, List.mem_filter.mpr ⟨hm, ?_⟩, rfl⟩) h
      simp [hi, hs]

theorem doEvent_ok_public {cur : St} {p : P} {e : Ev} {a : A}
    (hok : (doEvent m act cur p e a).res = .ok) : e ∈ publicFrom m cur :=
  Decidable.byContradiction fun h => by
    rw [doEvent_route (lookup_internal_of_not_public h)] at hok; cases hok

theorem doEvent_ok_row {cur : St} {p : P} {e : Ev} {a : A}
    (hok : (doEvent m act cur p e a).res = .ok) : ∃ d ∈ m.events, d.name = e ∧ cur ∈ d.src ∧ d.isInternal = false := by
  obtain ⟨d, hd, hn⟩ := List.mem_map.mp (doEvent_ok_public hok)
  obtain ⟨hm, hp⟩ := List.mem_filter.mp hd
  simp only [Bool.and_eq_true, Bool.not_eq_true', List.contains_iff_mem] at hp
  exact ⟨d, hm, hn, hp.2, hp.1⟩

theorem autoLookup_before_none (h : m.events.all (fun d => !(d.isAuto && normRunMode d == 1)) = true)
    (s : St) : autoLookup m s 1 = none := by
  unfold autoLookup
  rw [Option.map_eq_none_iff, List.find?_eq_none]
  intro d hd
  have := List.all_eq_true.mp h d hd
  simp only [Bool.not_eq_true', Bool.and_eq_false_iff] at this
  rcases this with h | h <;> simp [h]

theorem setState_of_lookup {s : St} {e : Ev} {tr : Tr} (h : lookup m s e = some tr) :
    setState m s e = some tr.dst := by
  unfold setState; rw [h]; rfl

/-- reading an equation `out = if the callback refused then x else y` (`doEvent_std`, `doEvent_then_auto`, `sign_do_*`): an
accepted `Do` is `y`, and the callback accepted -/
theorem accepted_of_ite {out x y : DoOut P R} {o : ActOut P R}
    (hdo : out = if o.res != .ok then x else y) (hx : x.res = o.res) (hok : out.res = .ok) : o.res = .ok ∧ out = y := by
  by_cases hr : o.res = .ok
  · rw [if_neg (by simp [hr])] at hdo
    exact ⟨hr, hdo⟩
  · rw [if_pos (by simpa using hr)] at hdo
    rw [hdo, hx] at hok
    exact absurd hok hr

theorem doEvent_std_ok {cur : St} {p : P}
    {e : Ev} {a : A} {tr : Tr} {aid : ActionId}
    (hl : lookup m cur e = some tr) (hni : tr.isInternal = false)
    (hb : autoLookup m cur 1 = none) (hcb : callbackOf m e = some aid)
    (hok : (doEvent m act cur p e a).res = .ok) :
    (act aid e p a).res = .ok ∧ doEvent m act cur p e a = doTrAfter m act tr (noBefore cur p) (act aid e p a) a :=
  accepted_of_ite (doEvent_std hl hni hb hcb) rfl hok

/-- the tail of `do` when the state reached, `s1`, has an after-auto event `au` whose callback returned `v` -/
def autoTail (m : MachineDesc) (s1 : St) (au : Ev) (o v : ActOut P R) : DoOut P R :=
  match v.res with
  | .ok =>
    match setState m s1 (v.outEvent.getD au) with
    | some s2 => ⟨some (some s2, pickData v.data o.data), .ok, s2, v.payload⟩
    | none => ⟨some (some s1, pickData v.data o.data), .err, s1, v.payload⟩
  | r => ⟨some (some s1, pickData v.data o.data), r, s1, v.payload⟩

/-- Here and in `doTrAfter_auto`, `doTrAfter_plain`: pass a table fact for `hs` as `(by exact h)` wherever the callback's
result (`ev` here, `o` there) is still to be found by unification, as it is under `rw`. Passed directly, `h` is unified with
`setState m s1 (?ev.getD au) = some ?s2` before `?ev` is known, and to decide that the unifier evaluates `lookup` on the
table: not wrong, but many times the work. `by exact` is elaborated last, when `?ev` has been assigned. -/
theorem autoTail_ok {s1 s2 : St} {au : Ev} {o : ActOut P R} {ev : Option Ev} {d : Option R} {p' : P}
    (hs : setState m s1 (ev.getD au) = some s2) :
    autoTail m s1 au o ⟨ev, d, .ok, p'⟩ = ⟨some (some s2, pickData d o.data), .ok, s2, p'⟩ := by
  simp only [autoTail, hs]

theorem autoTail_res_ok {s1 : St} {au : Ev} {o v : ActOut P R} (h : (autoTail m s1 au o v).res = .ok) : v.res = .ok := by
  unfold autoTail at h
  split at h
  · assumption
  · exact h

theorem doTrAfter_auto {tr : Tr} {cur : St} {p : P}
    {o : ActOut P R} {a : A} {s1 : St} {au : Tr} {vid : ActionId}
    (hs : setState m cur (o.outEvent.getD tr.event) = some s1)
    (hau : autoLookup m s1 2 = some au) (hcb : callbackOf m au.event = some vid) :
    doTrAfter m act tr (noBefore cur p) o a = autoTail m s1 au.event o (act vid au.event o.payload a) := by
  unfold doTrAfter autoTail
  simp only [noBefore, hs]
  unfold processAuto
  simp only [hau, hcb]
  cases hv : (act vid au.event o.payload a).res with
  | panic => simp
  | err => simp
  | ok =>
    simp only
    cases hs2 : setState m s1 ((act vid au.event o.payload a).outEvent.getD au.event) with
    | none => simp
    | some s2 => simp

theorem doTrAfter_plain {tr : Tr} {cur : St} {p : P}
    {o : ActOut P R} {a : A} {s1 : St}
    (hs : setState m cur (o.outEvent.getD tr.event) = some s1)
    (hau : autoLookup m s1 2 = none) :
    doTrAfter m act tr (noBefore cur p) o a = ⟨some (some s1, o.data), .ok, s1, o.payload⟩ := by
  unfold doTrAfter
  simp only [noBefore, hs, processAuto_none hau]
  simp

/-- Use it as `rw [doEvent_then_auto …]; rfl`, not as a term for a goal whose right side is folded (`signAfterValidate o a`):
given the expected type first, the unifier meets `autoTail ?m ?tr.dst …` with the folded definition before `hl`, `hau` have
fixed `tr`, `au`, and evaluates `lookup` on the table to decide it: not wrong, but twenty times the work. -/
theorem doEvent_then_auto {cur : St} {p : P}
    {e : Ev} {a : A} {tr au : Tr} {aid vid : ActionId}
    (hl : lookup m cur e = some tr) (hni : tr.isInternal = false)
    (hb : autoLookup m cur 1 = none) (hcb : callbackOf m e = some aid)
    (hout : (act aid e p a).res = .ok → (act aid e p a).outEvent = none ∨ (act aid e p a).outEvent = some e)
    (hau : autoLookup m tr.dst 2 = some au) (hcbv : callbackOf m au.event = some vid) :
    doEvent m act cur p e a =
      let o := act aid e p a
      if o.res != .ok then ⟨some (none, o.data), o.res, cur, o.payload⟩
      else autoTail m tr.dst au.event o (act vid au.event o.payload a) := by
  rw [doEvent_std hl hni hb hcb]
  dsimp only
  split
  · rfl
  · rename_i h
    refine doTrAfter_auto ?_ hau hcbv
    rw [lookup_event hl]
    rcases hout (by simpa using h) with h' | h' <;> rw [h'] <;> exact setState_of_lookup hl

theorem callbackOf_mem {e : Ev} {aid : ActionId} (h : callbackOf m e = some aid) :
    aid ∈ m.callbacks.map (·.2) := by
  unfold callbackOf at h
  rw [Option.map_eq_some_iff] at h
  obtain ⟨c, hf, hc⟩ := h
  rw [List.mem_map]
  exact ⟨c, List.mem_of_find?_eq_some hf, hc⟩

/-! What a `Do` keeps: a predicate `Q` of the payload that every callback of the machine keeps, and a class `G` of outcomes
that holds `ok` and `err` and the outcome of every callback on a `Q`-payload. `G := fun _ => True` gives the `_mono`
lemmas, `G := (· ≠ .panic)` the absence of panics. -/

section
variable (G : Res → Prop) (Q : P → Prop) (m : MachineDesc) (act : ActionId → Ev → P → A → ActOut P R)
  (hG : G .ok ∧ G .err)
  (h : ∀ aid ∈ m.callbacks.map (·.2), ∀ e p a, Q p → G (act aid e p a).res ∧ Q (act aid e p a).payload)
include hG h

theorem mainCallback_good (tr : Tr) (b : AutoOut P R) (a : A) (hq : Q b.payload) :
    G (mainCallback m act tr b a).res ∧ Q (mainCallback m act tr b a).payload := by
  unfold mainCallback
  cases hcb : callbackOf m tr.event with
  | none => exact ⟨hG.1, hq⟩
  | some aid => exact h aid (callbackOf_mem hcb) _ _ _ hq

theorem processAuto_good (cur : St) (p : P) (mode : Nat) (a : A) (hq : Q p) :
    G (processAuto m act cur p mode a).res ∧ Q (processAuto m act cur p mode a).payload :=
  have hv := fun au => mainCallback_good G Q m act hG h au (noBefore cur p) a hq
  processAuto_cases (motive := fun b => G b.res ∧ Q b.payload) m act cur p mode a
    (absent := fun _ => ⟨hG.1, hq⟩) (refused := fun au _ _ _ hr => ⟨hr ▸ (hv au).1, (hv au).2⟩)
    (noRow := fun au _ _ _ => ⟨hG.2, (hv au).2⟩) (moved := fun au _ _ _ _ => ⟨hG.1, (hv au).2⟩)

theorem doTrAfter_good (tr : Tr) (b : AutoOut P R) (o : ActOut P R) (a : A) (hq : Q o.payload) :
    G (doTrAfter m act tr b o a).res ∧ Q (doTrAfter m act tr b o a).payload := by
  unfold doTrAfter
  dsimp only
  cases hs : setState m b.state (o.outEvent.getD tr.event) with
  | none => exact ⟨hG.2, hq⟩
  | some s1 => exact processAuto_good G Q m act hG h s1 o.payload 2 a hq

theorem doEvent_good (cur : St) (p : P) (e : Ev) (a : A) (hq : Q p) :
    G (doEvent m act cur p e a).res ∧ Q (doEvent m act cur p e a).payload :=
  have hb := processAuto_good G Q m act hG h cur p 1 a hq
  have ho := fun tr => mainCallback_good G Q m act hG h tr _ a hb.2
  doEvent_cases (motive := fun out => G out.res ∧ Q out.payload) m act cur p e a
    (route := fun _ => ⟨hG.2, hq⟩) (beforeFailed := fun _ _ _ _ _ => hb) (refused := fun tr _ _ _ => ho tr)
    (noRow := fun tr _ _ _ _ => ⟨hG.2, (ho tr).2⟩)
    (moved := fun tr s1 _ _ _ _ => processAuto_good G Q m act hG h s1 _ 2 a (ho tr).2)

end

section
variable (Q : P → Prop) (m : MachineDesc) (act : ActionId → Ev → P → A → ActOut P R)

theorem doEvent_mono (hact : ∀ aid ∈ m.callbacks.map (·.2), ∀ e p a, Q p → Q (act aid e p a).payload)
    (cur : St) (p : P) (e : Ev) (a : A) (hq : Q p) : Q (doEvent m act cur p e a).payload :=
  (doEvent_good (fun _ => True) Q m act ⟨trivial, trivial⟩ (fun aid ha e p a hq => ⟨trivial, hact aid ha e p a hq⟩)
    cur p e a hq).2

theorem doEvent_preserves (proj : P → X) (m : MachineDesc) (act : ActionId → Ev → P → A → ActOut P R)
    (hact : ∀ aid ∈ m.callbacks.map (·.2), ∀ e p a, proj (act aid e p a).payload = proj p)
    (cur : St) (p : P) (e : Ev) (a : A) : proj (doEvent m act cur p e a).payload = proj p :=
  doEvent_mono (fun q => proj q = proj p) m act (fun aid h e q a hq => (hact aid h e q a).trans hq) cur p e a rfl

variable (h : ∀ aid ∈ m.callbacks.map (·.2), ∀ e p a, Q p → (act aid e p a).res ≠ .panic ∧ Q (act aid e p a).payload)
include h

theorem doEvent_safe (cur : St) (p : P) (e : Ev) (a : A) (hq : Q p) :
    (doEvent m act cur p e a).res ≠ .panic ∧ Q (doEvent m act cur p e a).payload :=
  doEvent_good (· ≠ .panic) Q m act ⟨nofun, nofun⟩ h cur p e a hq

end

/-! A state in which a machine starts accepts one event, `e0`, and `e0`'s callback creates what the machine's other
callbacks rely on: there `Q` holds after the main callback only. -/

section
variable {s0 : St} {e0 : Ev} {tr : Tr} {aid0 : ActionId}
  (hl : lookup m s0 e0 = some tr) (hni : tr.isInternal = false) (hb : autoLookup m s0 1 = none)
  (hcb : callbackOf m e0 = some aid0) (hpub : publicFrom m s0 = [e0])
include hl hni hb hcb hpub

theorem entry_good {Q : P → Prop}
    (h : ∀ aid ∈ m.callbacks.map (·.2), ∀ e p a, Q p → (act aid e p a).res ≠ .panic ∧ Q (act aid e p a).payload)
    (p : P) (e : Ev) (a : A) (h0 : (act aid0 e0 p a).res ≠ .panic)
    (h1 : (act aid0 e0 p a).res = .ok → Q (act aid0 e0 p a).payload) :
    (doEvent m act s0 p e a).res ≠ .panic ∧ ((doEvent m act s0 p e a).res = .ok → Q (doEvent m act s0 p e a).payload) := by
  by_cases he : e = e0
  · subst he
    rw [doEvent_std hl hni hb hcb]
    by_cases hk : (act aid0 e p a).res = .ok
    · rw [if_neg (by simp [hk])]
      have := doTrAfter_good (· ≠ .panic) Q m act ⟨nofun, nofun⟩ h tr (noBefore s0 p) _ a (h1 hk)
      exact ⟨this.1, fun _ => this.2⟩
    · rw [if_pos (by simpa using hk)]
      exact ⟨h0, fun hok => absurd hok hk⟩
  · rw [doEvent_route (lookup_internal_of_not_public (by simp [hpub, he]))]
    exact ⟨nofun, nofun⟩

end

end Dc4bcVerif.Model
