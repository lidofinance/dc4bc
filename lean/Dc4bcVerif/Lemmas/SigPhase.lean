/-
  The invitation machine (signature_proposal_fsm). Its invariant while replies are awaited, `SigInv`; the validator's
  verdict on whatever callback result it is run on, `sigAfter_cases`; what an accepted reply does under the invariant,
  `sig_confirm_outcome`, `sig_decline_outcome` (both through `sig_resp_outcome`); the opening proposal that enters the
  phase, `sig_init_spec`, `sig_init_outcome`.
-/
import Dc4bcVerif.Lemmas.Machines
import Dc4bcVerif.Lemmas.NoPanic

namespace Dc4bcVerif.Model
open Dc4bcVerif.Gen

abbrev sIdle0 : St := .s___idle
abbrev sSigAwait : St := .s_state_sig_proposal_await_participants_confirmations
abbrev sSigCollected : St := .s_state_sig_proposal_collected
abbrev sSigCancP : St := .s_state_sig_proposal_canceled_by_participant
abbrev sSigCancTo : St := .s_state_sig_proposal_canceled_by_timeout
abbrev eSigInit : Ev := .e_event_sig_proposal_init
abbrev eSigConfirm : Ev := .e_event_sig_proposal_confirm_by_participant
abbrev eSigDecline : Ev := .e_event_sig_proposal_decline_by_participant
abbrev eSigVal : Ev := .e_event_sig_proposal_validate

theorem sig_lookup_init : lookup sigMachine sIdle0 eSigInit = some ⟨eSigInit, sSigAwait, false, false, 0⟩ := by decide
theorem sig_lookup_confirm : lookup sigMachine sSigAwait eSigConfirm = some ⟨eSigConfirm, sSigAwait, false, false, 0⟩ := by decide
theorem sig_lookup_decline : lookup sigMachine sSigAwait eSigDecline = some ⟨eSigDecline, sSigAwait, false, false, 0⟩ := by decide
theorem sig_cb_init : callbackOf sigMachine eSigInit = some .sig_actionInitSignatureProposal := by decide
theorem sig_cb_confirm : callbackOf sigMachine eSigConfirm = some .sig_actionProposalResponseByParticipant := by decide
theorem sig_cb_decline : callbackOf sigMachine eSigDecline = some .sig_actionProposalResponseByParticipant := by decide
theorem sig_cb_val : callbackOf sigMachine eSigVal = some .sig_actionValidateSignatureProposal := by decide
theorem sig_auto : autoLookup sigMachine sSigAwait 2 = some ⟨eSigVal, sSigAwait, true, true, 2⟩ := by decide
theorem sig_auto_cancto : autoLookup sigMachine sSigCancTo 2 = none := by decide
theorem sig_set_val : setState sigMachine sSigAwait eSigVal = some sSigAwait := by decide
theorem sig_set_to : setState sigMachine sSigAwait .e_event_sig_proposal_canceled_timeout = some sSigCancTo := by decide
theorem sig_set_cancp : setState sigMachine sSigAwait .e_event_sig_proposal_canceled_participant = some sSigCancP := by decide
theorem sig_set_done : setState sigMachine sSigAwait .e_event_sig_proposal_set_validated = some sSigCollected := by decide

theorem sig_idle_public : publicFrom sigMachine sIdle0 = [eSigInit] := by decide
theorem sig_await_public : publicFrom sigMachine sSigAwait = [eSigConfirm, eSigDecline] := by decide

structure SigInv (p : Payload) (sc : SigConf) : Prop where
  hsig : p.sig = some sc
  hdkg : p.dkg = none
  hall : ∀ q ∈ sc.quorum, q.status = 0 ∨ q.status = 1
  hopen : cntSig sc 1 < sc.quorum.length

theorem runAction_sig_resp : runAction .sig_actionProposalResponseByParticipant = sig_actionProposalResponseByParticipant := rfl
theorem runAction_sig_val : runAction .sig_actionValidateSignatureProposal = sig_actionValidateSignatureProposal := rfl
theorem runAction_sig_init : runAction .sig_actionInitSignatureProposal = sig_actionInitSignatureProposal := rfl

/-- the tail of a `Do` that enters (or stays in) the invitation phase: its auto-validator decides -/
def sigAfter (o : AOut) (a : Arg) : Out :=
  autoTail sigMachine sSigAwait eSigVal o (sig_actionValidateSignatureProposal eSigVal o.payload a)

theorem sig_after (tr : Tr) (cur : St) (p : Payload) (o : AOut) (a : Arg)
    (hs : setState sigMachine cur (o.outEvent.getD tr.event) = some sSigAwait) :
    doTrAfter sigMachine runAction tr (noBefore cur p) o a = sigAfter o a :=
  doTrAfter_auto hs sig_auto sig_cb_val

theorem sigAfter_cases (o : AOut) (a : Arg) (sc : SigConf) (hs : o.payload.sig = some sc) :
    let out := sigAfter o a
    out.payload = o.payload ∧
    ((sc.expiresAt < sc.updatedAt ∧ out.state = sSigCancTo) ∨
     (¬ sc.expiresAt < sc.updatedAt ∧ sc.quorum.any (·.status == 2) = true ∧ out.state = sSigCancP) ∨
     (¬ sc.expiresAt < sc.updatedAt ∧ sc.quorum.any (·.status == 2) = false ∧ cntSig sc 1 < sc.quorum.length ∧
      out.state = sSigAwait) ∨
     (¬ sc.expiresAt < sc.updatedAt ∧ sc.quorum.any (·.status == 2) = false ∧ ¬ cntSig sc 1 < sc.quorum.length ∧
      out.state = sSigCollected)) := by
  unfold sigAfter
  fun_cases sig_actionValidateSignatureProposal eSigVal o.payload a
  case case1 hn => rw [hs] at hn; cases hn  -- no invitation data
  case case2 sc' hs' h1 =>  -- expired
    cases hs.symm.trans hs'
    rw [aOk, autoTail_ok (by exact sig_set_to)]
    exact ⟨rfl, .inl ⟨h1, rfl⟩⟩
  case case3 sc' hs' h1 _ h2 =>  -- somebody declined
    cases hs.symm.trans hs'
    rw [aOk, autoTail_ok (by exact sig_set_cancp)]
    exact ⟨rfl, .inr (.inl ⟨h1, h2, rfl⟩)⟩
  case case4 sc' hs' h1 _ _ h2 h3 =>  -- still waiting
    cases hs.symm.trans hs'
    rw [aOk, autoTail_ok (by exact sig_set_val)]
    exact ⟨rfl, .inr (.inr (.inl ⟨h1, Bool.not_eq_true _ ▸ h2, Int.sub_pos.mp h3, rfl⟩))⟩
  case case5 sc' hs' h1 _ _ h2 h3 _ =>  -- everybody has confirmed
    cases hs.symm.trans hs'
    rw [aOk, autoTail_ok (by exact sig_set_done)]
    exact ⟨rfl, .inr (.inr (.inr ⟨h1, Bool.not_eq_true _ ▸ h2, fun h => h3 (Int.sub_pos.mpr h), rfl⟩))⟩

theorem sig_resp_outcome (p : Payload) (e : Ev) (a : Arg) (sc : SigConf) (hs : p.sig = some sc)
    (hl : lookup sigMachine sSigAwait e = some ⟨e, sSigAwait, false, false, 0⟩)
    (hcb : callbackOf sigMachine e = some .sig_actionProposalResponseByParticipant)
    (hok : (doEvent sigMachine runAction sSigAwait p e a).res = .ok) :
    ∃ pid ts part, a = .sigPart pid ts ∧ getAt sc.quorum pid = some part ∧
    ((doEvent sigMachine runAction sSigAwait p e a).state = sSigCancTo ∨
     (part.status = 0 ∧ ∃ st, (e = eSigConfirm ∧ st = 1 ∨ e = eSigDecline ∧ st = 2) ∧
        doEvent sigMachine runAction sSigAwait p e a =
          sigAfter (aOk { p with sig := some { sc with
            quorum := setAt sc.quorum pid { part with status := st, updatedAt := ts }, updatedAt := ts } }) a)) := by
  obtain ⟨hres, hdo⟩ := doEvent_std_ok hl rfl (no_before_auto .sig sSigAwait) hcb hok
  rw [hdo]
  rw [runAction_sig_resp] at hres ⊢
  rcases sigResp_cases e p a with
    h | ⟨_, h⟩ | ⟨pid, ts, sc0, part, ha, hs0, hg, ⟨_, h⟩ | ⟨_, hst, st, he, h⟩⟩ <;> rw [h] at hres ⊢
  · cases hres
  · cases hres
  all_goals (rw [hs] at hs0; cases hs0; refine ⟨pid, ts, part, ha, hg, ?_⟩)
  · exact .inl (congrArg DoOut.state (doTrAfter_plain (s1 := sSigCancTo) (by exact sig_set_to) sig_auto_cancto))
  · exact .inr ⟨hst, st, he, sig_after _ _ _ _ _ (by exact setState_of_lookup hl)⟩

/-- **unanimity, invitation phase.** An accepted confirmation comes from an invited participant
still awaited; the invitation phase completes exactly when it was the last one missing; a reply
stamped after the deadline cancels the round. -/
theorem sig_confirm_outcome (p : Payload) (a : Arg) (sc : SigConf) (hinv : SigInv p sc)
    (hok : (doEvent sigMachine runAction sSigAwait p eSigConfirm a).res = .ok) :
    let out := doEvent sigMachine runAction sSigAwait p eSigConfirm a
    ∃ pid ts part, a = .sigPart pid ts ∧ getAt sc.quorum pid = some part ∧
    (out.state = sSigCancTo ∨
     (part.status = 0 ∧ cntSig sc 1 + 1 = sc.quorum.length ∧ out.state = sSigCollected ∧
        ∃ sc', out.payload.sig = some sc' ∧ out.payload.dkg = none ∧ sc'.quorum.length = sc.quorum.length ∧
          ∀ q ∈ sc'.quorum, q.status = 1) ∨
     (part.status = 0 ∧ cntSig sc 1 + 1 < sc.quorum.length ∧ out.state = sSigAwait ∧
        ∃ sc', SigInv out.payload sc' ∧ cntSig sc' 1 = cntSig sc 1 + 1 ∧ sc'.quorum.length = sc.quorum.length)) := by
  obtain ⟨pid, ts, part, ha, hg, hcase⟩ := sig_resp_outcome p eSigConfirm a sc hinv.hsig sig_lookup_confirm sig_cb_confirm hok
  refine ⟨pid, ts, part, ha, hg, ?_⟩
  rcases hcase with h | ⟨hst, st, ⟨_, rfl⟩ | ⟨he, _⟩, hout⟩
  · exact .inl h
  · -- name the result of `Do`: from here on only `hout` says what it is
    generalize doEvent sigMachine runAction sSigAwait p eSigConfirm a = out at hout ⊢
    -- name the updated invitation data: the verdict lemma is taken at a variable, so that `rw [← hout]` matches
    generalize hsc' : ({ sc with quorum := setAt sc.quorum pid { part with status := 1, updatedAt := ts }, updatedAt := ts } :
      SigConf) = sc' at hout
    obtain ⟨hlen, hc', hall'⟩ := cntSig_step 0 1 (sc' := sc') hg (by decide) hst rfl hinv.hall (by rw [← hsc'])
    obtain ⟨hpl, hcases⟩ := sigAfter_cases (aOk { p with sig := some sc' }) a sc' rfl
    rw [← hout] at hpl hcases
    rw [hc', hlen] at hcases
    rcases hcases with ⟨_, hs⟩ | ⟨_, h2, _⟩ | ⟨_, _, h3, hs⟩ | ⟨_, _, h3, hs⟩
    · exact .inl hs
    · obtain ⟨q, hq, h2⟩ := List.any_eq_true.mp h2
      rcases hall' q hq with h' | h' <;> simp [h'] at h2
    · refine .inr (.inr ⟨hst, h3, hs, sc', hpl ▸ ⟨rfl, hinv.hdkg, hall', by rw [hc', hlen]; exact h3⟩, hc', hlen⟩)
    · have hopen := hinv.hopen
      refine .inr (.inl ⟨hst, by omega, hs, sc', by rw [hpl]; rfl, by rw [hpl]; exact hinv.hdkg, hlen, ?_⟩)
      exact quorum_full SigPart.status (show cntSig sc' 1 = _ by rw [hc', hlen]; omega)
  · cases he

/-- **a decline cancels.** -/
theorem sig_decline_outcome (p : Payload) (a : Arg) (sc : SigConf) (hinv : SigInv p sc)
    (hok : (doEvent sigMachine runAction sSigAwait p eSigDecline a).res = .ok) :
    (doEvent sigMachine runAction sSigAwait p eSigDecline a).state = sSigCancTo ∨
    (doEvent sigMachine runAction sSigAwait p eSigDecline a).state = sSigCancP := by
  obtain ⟨pid, ts, part, -, hg, hcase⟩ := sig_resp_outcome p eSigDecline a sc hinv.hsig sig_lookup_decline sig_cb_decline hok
  rcases hcase with h | ⟨-, st, ⟨he, _⟩ | ⟨_, rfl⟩, hdo⟩
  · exact .inl h
  · cases he
  rw [hdo]
  -- name the updated invitation data, to keep the goal small
  generalize hsc' : ({ sc with quorum := setAt sc.quorum pid { part with status := 2, updatedAt := ts }, updatedAt := ts } : SigConf) = sc'
  have hany : sc'.quorum.any (·.status == 2) = true := by
    rw [← hsc', List.any_eq_true]
    exact ⟨_, mem_setAt_self hg, rfl⟩
  rcases (sigAfter_cases (aOk { p with sig := some sc' }) a sc' rfl).2 with ⟨_, hs⟩ | ⟨_, _, hs⟩ | ⟨_, h2, _⟩ | ⟨_, h2, _⟩
  · exact .inl hs
  · exact .inr hs
  all_goals (rw [hany] at h2; cases h2)

theorem sig_init_spec (p : Payload) (a : Arg) :
    let o := sig_actionInitSignatureProposal eSigInit p a
    (o.res = .err → o.payload = p) ∧ o.res ≠ .panic ∧
    (o.res = .ok → o.outEvent = some eSigInit ∧ ∃ parts thr ts sc, a = .sigInit parts thr ts ∧ o.payload.sig = some sc ∧
      o.payload.dkg = p.dkg ∧ sc.quorum.length = parts.length ∧ 2 ≤ parts.length ∧ sc.updatedAt = zeroTime ∧
      (∀ q ∈ sc.quorum, q.status = 0)) := by
  intro o
  subst o
  fun_cases sig_actionInitSignatureProposal eSigInit p a
  case case2 parts thr ts hv _ _ _ _ _ _ =>  -- accepted
    refine ⟨nofun, nofun, fun _ => ⟨rfl, parts, thr, ts, _, rfl, rfl, rfl, List.length_map _, ?_, rfl, ?_⟩⟩
    · simp only [validSigInit, Bool.not_eq_true', Bool.not_eq_false, Bool.and_eq_true, decide_eq_true_eq] at hv
      have := hv.1.1.1.1.1
      simp only [Config.participantsMinCount] at this
      omega
    · intro q hq
      obtain ⟨e, _, rfl⟩ := List.mem_map.mp hq
      rfl
  all_goals exact ⟨fun _ => rfl, nofun, nofun⟩

/-- **entering the invitation phase.** From `__idle` (no key-generation data yet) an accepted opening
proposal leads to the invitation phase with everybody awaited (or straight to a timeout when its
timestamp is absurd); nothing else is accepted in `__idle`. -/
theorem sig_init_outcome (p : Payload) (a : Arg) (hdkg : p.dkg = none)
    (hok : (doEvent sigMachine runAction sIdle0 p eSigInit a).res = .ok) :
    let out := doEvent sigMachine runAction sIdle0 p eSigInit a
    out.state = sSigCancTo ∨ (out.state = sSigAwait ∧ ∃ sc, SigInv out.payload sc) := by
  obtain ⟨hres, hdo⟩ := doEvent_std_ok sig_lookup_init rfl (no_before_auto .sig sIdle0) sig_cb_init hok
  rw [runAction_sig_init] at hres hdo
  obtain ⟨-, -, hacc⟩ := sig_init_spec p a
  obtain ⟨hout, parts, thr, ts, sc, -, hs, hd, hlen, hn, -, hall⟩ := hacc hres
  intro out
  have ho : out = _ := hdo.trans (sig_after _ _ _ _ _ (by rw [hout]; exact setState_of_lookup sig_lookup_init))
  clear_value out
  generalize sig_actionInitSignatureProposal eSigInit p a = o at ho hs hd
  obtain ⟨hall01, hopen⟩ := quorum_start SigPart.status (a := 0) (b := 1) (by decide) hall
    (fun h => by rw [h] at hlen; simp at hlen; omega)
  obtain ⟨hpl, hcases⟩ := sigAfter_cases o a sc hs
  rw [← ho] at hpl hcases
  rcases hcases with ⟨_, hst⟩ | ⟨_, h2, _⟩ | ⟨_, _, _, hst⟩ | ⟨_, _, h3, _⟩
  · exact .inl hst
  · obtain ⟨q, hq, h2⟩ := List.any_eq_true.mp h2
    simp [hall q hq] at h2
  · exact .inr ⟨hst, sc, hpl ▸ ⟨hs, by rw [hd]; exact hdkg, hall01, hopen⟩⟩
  · exact absurd hopen h3

end Dc4bcVerif.Model
