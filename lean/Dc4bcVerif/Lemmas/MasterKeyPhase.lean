/-
  The master-key phase of the key-generation machine (state_dkg_master_key_await_confirmations): announcements of the
  group key and the public polynomial, and the validator that compares keys. Its invariant `MKInv`; what the validator's
  comparison computes, `keyMismatchL_iff`, `mkMismatchCond_iff`; its verdict, `mkAfter_cases`; what an accepted announcement
  does under the invariant, `mk_received_outcome`; the error report, `mk_error_outcome`. The phase has no opening event: it
  is entered by the responses validator.
-/
import Dc4bcVerif.Lemmas.DkgPhases

namespace Dc4bcVerif.Model
open Dc4bcVerif.Gen

abbrev sMKAwait : St := .s_state_dkg_master_key_await_confirmations
abbrev sMKCollected : St := .s_state_dkg_master_key_collected
abbrev sMKCancErr : St := .s_state_dkg_master_key_await_canceled_by_error
abbrev sMKCancTo : St := .s_state_dkg_master_key_await_canceled_by_timeout
abbrev eMKOk : Ev := .e_event_dkg_master_key_confirm_received
abbrev eMKErr : Ev := .e_event_dkg_master_key_confirm_canceled_by_error
abbrev eMKVal : Ev := .e_event_dkg_master_key_validate_internal

theorem mk_lookup_ok : lookup dkgMachine sMKAwait eMKOk = some ⟨eMKOk, sMKAwait, false, false, 0⟩ := by decide
theorem mk_lookup_err : lookup dkgMachine sMKAwait eMKErr = some ⟨eMKErr, sMKCancErr, false, false, 0⟩ := by decide
theorem mk_cb_ok : callbackOf dkgMachine eMKOk = some .dkg_actionMasterKeyConfirmationReceived := by decide
theorem mk_cb_err : callbackOf dkgMachine eMKErr = some .dkg_actionConfirmationError := by decide
theorem mk_cb_val : callbackOf dkgMachine eMKVal = some .dkg_actionValidateDkgProposalAwaitMasterKey := by decide
theorem mk_auto : autoLookup dkgMachine sMKAwait 2 = some ⟨eMKVal, sMKAwait, true, true, 2⟩ := by decide
theorem mk_auto_cancerr : autoLookup dkgMachine sMKCancErr 2 = none := by decide
theorem mk_set_val : setState dkgMachine sMKAwait eMKVal = some sMKAwait := by decide
theorem mk_set_errint : setState dkgMachine sMKAwait .e_event_dkg_master_key_confirm_canceled_by_error_internal = some sMKCancErr := by decide
theorem mk_set_done : setState dkgMachine sMKAwait .e_event_dkg_master_key_confirmed_internal = some sMKCollected := by decide
theorem mk_set_to : setState dkgMachine sMKAwait .e_event_dkg_master_key_confirm_canceled_by_timeout_internal = some sMKCancTo := by decide

theorem mk_public : publicFrom dkgMachine sMKAwait = [eMKOk, eMKErr] := by decide

def keysAgree (dc : DkgConf) : Prop :=
  ∀ q ∈ dc.quorum, ∀ q' ∈ dc.quorum, q.status = 10 → q'.status = 10 → q.masterKey = q'.masterKey

/-- the validator's comparison with the first confirmed key finds a difference iff not all confirmed keys are equal -/
theorem keyMismatchL_iff (l : List DkgPart) :
    keyMismatchL l = true ↔ ¬ ∀ q ∈ l, ∀ q' ∈ l, q.masterKey = q'.masterKey := by
  cases l with
  | nil => simp [keyMismatchL]
  | cons k rest =>
    simp only [keyMismatchL, List.any_eq_true, bne_iff_ne, ne_eq]
    constructor
    · rintro ⟨q, hq, hne⟩ h
      exact hne (h q (List.mem_cons_of_mem _ hq) k List.mem_cons_self)
    · intro h
      refine Classical.byContradiction fun hn => h fun q hq q' hq' => ?_
      have key : ∀ x ∈ k :: rest, x.masterKey = k.masterKey := fun x hx =>
        (List.mem_cons.mp hx).elim (· ▸ rfl) fun hx => Classical.byContradiction fun hne => hn ⟨x, hx, hne⟩
      rw [key q hq, key q' hq']

theorem keyMismatchL_length (l : List DkgPart) (h : keyMismatchL l = true) : l.length > 1 := by
  cases l with
  | nil => simp [keyMismatchL] at h
  | cons k rest =>
    cases rest with
    | nil => simp [keyMismatchL] at h
    | cons _ _ => simp

structure MKInv (p : Payload) (dc : DkgConf) : Prop where
  hdkg : p.dkg = some dc
  hall : allIn dc 9 10
  hopen : cntDkg dc 10 < dc.quorum.length
  hkeys : keysAgree dc

theorem runAction_mk_ok : runAction .dkg_actionMasterKeyConfirmationReceived = dkg_actionMasterKeyConfirmationReceived := rfl
theorem runAction_mk_val : runAction .dkg_actionValidateDkgProposalAwaitMasterKey = dkg_actionValidateDkgProposalAwaitMasterKey := rfl

def mkAfter (o : AOut) (a : Arg) : Out :=
  autoTail dkgMachine sMKAwait eMKVal o (dkg_actionValidateDkgProposalAwaitMasterKey eMKVal o.payload a)

theorem mk_after (tr : Tr) (cur : St) (p : Payload) (o : AOut) (a : Arg)
    (hs : setState dkgMachine cur (o.outEvent.getD tr.event) = some sMKAwait) :
    doTrAfter dkgMachine runAction tr (noBefore cur p) o a = mkAfter o a :=
  doTrAfter_auto hs mk_auto mk_cb_val

theorem mkAfter_cases (o : AOut) (a : Arg) (dc : DkgConf) (hd : o.payload.dkg = some dc)
    (hne : dc.quorum.any (·.status == 11) = false) :
    let out := mkAfter o a
    (dc.expiresAt < dc.updatedAt ∧ out.state = sMKCancTo) ∨
    (¬ dc.expiresAt < dc.updatedAt ∧ mkMismatchCond dc = true ∧ out.state = sMKCancErr) ∨
    (¬ dc.expiresAt < dc.updatedAt ∧ mkMismatchCond dc = false ∧ cntDkg dc 10 < dc.quorum.length ∧
      out.state = sMKAwait ∧ out.payload = o.payload) ∨
    (¬ dc.expiresAt < dc.updatedAt ∧ mkMismatchCond dc = false ∧ ¬ cntDkg dc 10 < dc.quorum.length ∧
      out.state = sMKCollected ∧
      out.payload = { o.payload with dkg := some { dc with quorum := dc.quorum.map (fun q => { q with status := 10 }) } }) := by
  unfold mkAfter
  rcases mkValidate_cases eMKVal o.payload a with
    ⟨hn, _⟩ | ⟨dc', hd', ⟨h1, h⟩ | ⟨_, h2, _⟩ | ⟨h1, _, h3, h⟩ | ⟨h1, _, h3, h4, h⟩ | ⟨h1, _, h3, h4, h⟩⟩
  · rw [hd] at hn; cases hn
  all_goals (rw [hd] at hd'; cases hd'; dsimp only)
  · rw [h, aOk, autoTail_ok (by exact mk_set_to)]; exact .inl ⟨h1, rfl⟩
  · rw [hne] at h2; cases h2
  · rw [h, aOk, autoTail_ok (by exact mk_set_errint)]; exact .inr (.inl ⟨h1, h3, rfl⟩)
  · rw [h, aOk, autoTail_ok (by exact mk_set_val)]; exact .inr (.inr (.inl ⟨h1, h3, h4, rfl, rfl⟩))
  · rw [h, aOk, autoTail_ok (by exact mk_set_done)]; exact .inr (.inr (.inr ⟨h1, h3, h4, rfl, rfl⟩))

theorem mkMismatchCond_iff (dc : DkgConf) : mkMismatchCond dc = true ↔ ¬ keysAgree dc := by
  have : mkMismatchCond dc = keyMismatchL (dc.quorum.filter (·.status == 10)) := by
    unfold mkMismatchCond
    cases h : keyMismatchL (dc.quorum.filter (·.status == 10)) with
    | false => simp
    | true => simp [keyMismatchL_length _ h]
  rw [this, keyMismatchL_iff]
  unfold keysAgree
  simp only [List.mem_filter, beq_iff_eq, and_imp]
  exact not_congr ⟨fun h q hq q' hq' hs hs' => h q hq hs q' hq' hs', fun h q hq hs q' hq' hs' => h q hq q' hq' hs hs'⟩

/-- **the master-key phase, one step.** An accepted announcement comes from a participant still
awaited. A polynomial differing from the one already announced, a key differing from a key already
confirmed, or a late timestamp cancel the round; the round becomes `master_key_collected` exactly
when this was the last participant missing and all `n` announced keys are equal — and then the
retained polynomial is the one this (and every earlier non-empty) announcement carried. -/
theorem mk_received_outcome (p : Payload) (a : Arg) (dc : DkgConf) (hinv : MKInv p dc)
    (hok : (doEvent dkgMachine runAction sMKAwait p eMKOk a).res = .ok) :
    let out := doEvent dkgMachine runAction sMKAwait p eMKOk a
    ∃ pid key ts poly part, a = .masterKey pid key ts poly ∧ getAt dc.quorum pid = some part ∧ part.status = 9 ∧
    ((dc.pubPolyBz ≠ [] ∧ dc.pubPolyBz ≠ poly ∧ out.state = sMKCancErr) ∨
     ((dc.pubPolyBz = [] ∨ dc.pubPolyBz = poly) ∧
      ((dc.expiresAt < ts ∧ out.state = sMKCancTo) ∨
       (¬ dc.expiresAt < ts ∧ (∃ q ∈ dc.quorum, q.status = 10 ∧ q.masterKey ≠ key) ∧ out.state = sMKCancErr) ∨
       (¬ dc.expiresAt < ts ∧ (∀ q ∈ dc.quorum, q.status = 10 → q.masterKey = key) ∧
        ((cntDkg dc 10 + 1 = dc.quorum.length ∧ out.state = sMKCollected ∧
            ∃ dc', out.payload.dkg = some dc' ∧ dc'.pubPolyBz = poly ∧ dc'.quorum.length = dc.quorum.length ∧
              ∀ q ∈ dc'.quorum, q.status = 10 ∧ q.masterKey = key) ∨
         (cntDkg dc 10 + 1 < dc.quorum.length ∧ out.state = sMKAwait ∧
            ∃ dc', MKInv out.payload dc' ∧ dc'.pubPolyBz = poly ∧ cntDkg dc' 10 = cntDkg dc 10 + 1 ∧
              dc'.quorum.length = dc.quorum.length)))))) := by
  obtain ⟨hres, hdo⟩ := doEvent_std_ok mk_lookup_ok rfl (no_before_auto .dkg sMKAwait) mk_cb_ok hok
  intro out
  have hout : out = _ := hdo
  clear_value out
  rw [runAction_mk_ok] at hres hout
  rcases mkReceived_cases eMKOk p a with
    h | ⟨_, h⟩ | ⟨pid, key, ts, poly, dc0, part, ha, hd0, hg, hst, ⟨hp1, hp2, h⟩ | ⟨hpoly, h⟩⟩ <;> rw [h] at hres hout
  · cases hres
  · cases hres
  all_goals (rw [hinv.hdkg] at hd0; cases hd0; refine ⟨pid, key, ts, poly, part, ha, hg, hst, ?_⟩)
  · -- a polynomial other than the one announced before: cancelled by the callback itself
    refine .inl ⟨hp1, hp2, ?_⟩
    rw [hout]
    exact congrArg DoOut.state (doTrAfter_plain (s1 := sMKCancErr) (by exact mk_set_errint) mk_auto_cancerr)
  refine .inr ⟨hpoly, ?_⟩
  -- name the new member and the updated data: what follows is about `part'.masterKey`, `dc'.quorum`, not about their terms
  generalize hpart' : ({ part with masterKey := key, status := 10, updatedAt := ts } : DkgPart) = part' at hout
  generalize hdc' : ({ dc with quorum := setAt dc.quorum pid part', updatedAt := ts, pubPolyBz := poly } : DkgConf) = dc' at hout
  have hst' : part'.status = 10 := by rw [← hpart']
  have hkey' : part'.masterKey = key := by rw [← hpart']
  have hq' : dc'.quorum = setAt dc.quorum pid part' := by rw [← hdc']
  obtain ⟨hlen, hc', hall'⟩ := cntDkg_step 9 10 hg (by decide) hst hst' hinv.hall hq'
  -- agreement of keys after the update
  have hagree : keysAgree dc' ↔ ∀ q ∈ dc.quorum, q.status = 10 → q.masterKey = key := by
    unfold keysAgree
    rw [hq']
    constructor
    · intro hk q hq hs
      have hne : q ≠ part := by intro e; rw [e, hst] at hs; cases hs
      exact (hk q (mem_setAt_of_ne hg hq hne) part' (mem_setAt_self hg) hs hst').trans hkey'
    · intro hk q hq q' hq' hs hs'
      have key_of : ∀ x ∈ setAt dc.quorum pid part', x.status = 10 → x.masterKey = key := by
        intro x hx hxs
        rcases mem_setAt hx with h1 | h1
        · exact hk x h1 hxs
        · rw [h1]; exact hkey'
      rw [key_of q hq hs, key_of q' hq' hs']
  replace hout := hout.trans (mk_after _ _ _ _ _ (by exact setState_of_lookup mk_lookup_ok))
  have hcases := mkAfter_cases (aOk { p with dkg := some dc' }) a dc' rfl (allIn_any_false hall' (by decide) (by decide))
  have hexp : (dc'.expiresAt < dc'.updatedAt) ↔ (dc.expiresAt < ts) := by rw [← hdc']
  have hpub : dc'.pubPolyBz = poly := by rw [← hdc']
  have hmT : mkMismatchCond dc' = true ↔ ¬ ∀ q ∈ dc.quorum, q.status = 10 → q.masterKey = key := by
    rw [mkMismatchCond_iff, hagree]
  have hmF : mkMismatchCond dc' = false ↔ ∀ q ∈ dc.quorum, q.status = 10 → q.masterKey = key := by
    rw [← Bool.not_eq_true, hmT, Classical.not_not]
  rw [← hout, hc', hlen, hexp, hmT, hmF] at hcases
  rcases hcases with ⟨he, hs⟩ | ⟨he, hk, hs⟩ | ⟨he, hk, h3, hs, hp⟩ | ⟨he, hk, h3, hs, hp⟩
  · exact .inl ⟨he, hs⟩
  · refine .inr (.inl ⟨he, ?_, hs⟩)
    exact Classical.byContradiction (fun hn => hk (fun q hq hs =>
      Classical.byContradiction (fun hne => hn ⟨q, hq, hs, hne⟩)))
  · exact .inr (.inr ⟨he, hk, .inr ⟨h3, hs, dc', hp ▸ ⟨rfl, hall', by rw [hc', hlen]; exact h3, hagree.mpr hk⟩, hpub, hc',
      hlen⟩⟩)
  · have hopen := hinv.hopen
    refine .inr (.inr ⟨he, hk, .inl ⟨by omega, hs, { dc' with quorum := dc'.quorum.map (fun q => { q with status := 10 }) },
      by rw [hp], hpub, by simp [hlen], ?_⟩⟩)
    -- everybody has confirmed (count = n) and keys agree with `key`
    have hfull := quorum_full DkgPart.status (show cntDkg dc' 10 = _ by rw [hc', hlen]; omega)
    intro q hq
    obtain ⟨q0, hq0, rfl⟩ := List.mem_map.mp hq
    refine ⟨rfl, ?_⟩
    have hs0 := hfull q0 hq0
    rw [hq'] at hq0
    rcases mem_setAt hq0 with h1 | h1
    · exact hk q0 h1 hs0
    · rw [h1]; exact hkey'

theorem mk_error_outcome (p : Payload) (a : Arg)
    (hok : (doEvent dkgMachine runAction sMKAwait p eMKErr a).res = .ok) :
    (doEvent dkgMachine runAction sMKAwait p eMKErr a).state = sMKCancErr :=
  dkg_error_outcome mk_lookup_err mk_cb_err mk_auto_cancerr hok

end Dc4bcVerif.Model
