/-
  What each step of the node's handlers (`Model/Node.lean`, `Model/NodeOps.lean`) does, in the model's order: when it
  succeeds and with what, and that the steps before the event is applied hand the node state through. No property of the
  round machines is used here. The handler as a whole is in `Lemmas/NodeLocal.lean`. Step lemmas that stand in property
  files, with the theorems of the checks that use them: `C15.execGuard_some`, `C18Node.saveSignatures_rounds`, `C18Reinit.getInstance_dump`,
  `C08.saveFSM_other`, `C19Store.saved_is_listed` / `others_untouched` / `load_after_save`.
-/
import Dc4bcVerif.Model.NodeOps
import Dc4bcVerif.Lemmas.Assoc

namespace Dc4bcVerif.Model.Node
open Dc4bcVerif.Gen Dc4bcVerif.Model

theorem lookupS_assocSet {β : Type} (l : List (String × β)) (k k' : String) (v : β) :
    lookupS (assocSet l k v) k' = if k = k' then some v else lookupS l k' :=
  get_assocSet l k k' v

theorem lookupS_assocSet_eq {β : Type} (l : List (String × β)) (k : String) (v : β) :
    lookupS (assocSet l k v) k = some v := by
  rw [lookupS_assocSet, if_pos rfl]

theorem lookupS_assocSet_ne {β : Type} (l : List (String × β)) (k k' : String) (v : β) (h : k' ≠ k) :
    lookupS (assocSet l k v) k' = lookupS l k' := by
  rw [lookupS_assocSet, if_neg h.symm]

theorem saveSignatures_some {st st' : NodeSt} {l : List RSig} (h : saveSignatures st l = some st') :
    ∃ s, st' = { st with sigs := s } := by
  unfold saveSignatures at h
  split at h
  · cases h
  · exact ⟨_, (Option.some.inj h).symm⟩

/-- `getInstance` without the node state: what `GetFSMInstance(R, true)` hands back when the store holds `d` under `R` — the
dump restored (`none` if it does not restore), or for an unknown id a fresh round, unless the id is blank -/
def loaded (d : Option DumpV) (R : String) : Option Instance :=
  match d with
  | some d => Instance.restore d.1 d.2
  | none => if blankId R then none else some (Instance.create R)

theorem getInstance_eq (st : NodeSt) (R : String) : getInstance st R = (loaded (lookupS st.rounds R) R).map (st, ·) := by
  fun_cases getInstance st R <;> simp only [loaded, *] <;> rfl

theorem getInstance_some {st st1 : NodeSt} {round : String} {inst : Instance} (h : getInstance st round = some (st1, inst)) :
    st1 = st ∧ ((∃ ds p, lookupS st.rounds round = some (ds, p) ∧ Instance.restore ds p = some inst) ∨
      (lookupS st.rounds round = none ∧ blankId round = false ∧ inst = Instance.create round)) := by
  revert h
  fun_cases getInstance st round
  case case1 ds p hl =>
    intro h
    obtain ⟨i, hr, hi⟩ := Option.map_eq_some_iff.mp h
    cases hi
    exact ⟨rfl, .inl ⟨ds, p, hl, hr⟩⟩
  case case2 => nofun
  case case3 hl hb => rintro ⟨⟩; exact ⟨rfl, .inr ⟨hl, eq_false_of_ne_true hb, rfl⟩⟩

theorem getInstance_none {st : NodeSt} {round : String} (h : getInstance st round = none) :
    (∃ ds p, lookupS st.rounds round = some (ds, p) ∧ Instance.restore ds p = none) ∨
      (lookupS st.rounds round = none ∧ blankId round = true) := by
  revert h
  fun_cases getInstance st round
  case case1 ds p hl => exact fun h => .inl ⟨ds, p, hl, Option.map_eq_none_iff.mp h⟩
  case case2 hl hb => exact fun _ => .inr ⟨hl, hb⟩
  case case3 => nofun

theorem lookupS_saveFSM (st : NodeSt) (R r : String) (d : DumpV) :
    lookupS (saveFSM st R d).rounds r = if R = r then some d else lookupS st.rounds r :=
  lookupS_assocSet _ _ _ _

theorem getInstance_saveFSM (st : NodeSt) (R : String) (d : DumpV) :
    getInstance (saveFSM st R d) R = (Instance.restore d.1 d.2).map (saveFSM st R d, ·) := by
  rw [getInstance_eq, lookupS_saveFSM, if_pos rfl]
  rfl

theorem verifyMessage_cases (st : NodeSt) (inst : Instance) (m : NMsg) :
    let signed := ∃ key, lookupS inst.payload.pubKeys m.sender = some key ∧ key.length = 32 ∧ key ∈ m.validKeys ∧ m.sender ≠ ""
    (verifyMessage st inst m = .ok ∧ (st.skipVerify = true ∨ signed)) ∨
    (verifyMessage st inst m = .reject ∧ ¬ (st.skipVerify = true ∨ signed)) := by
  intro signed
  -- with verification on, every refusal has to refute `signed`
  fun_cases verifyMessage st inst m
  case case1 h => exact .inl ⟨rfl, .inl h⟩
  case case2 h1 h2 =>
    refine .inr ⟨rfl, fun hs => hs.elim h1 fun ⟨key, hk, _⟩ => ?_⟩
    rw [List.isEmpty_iff.mp h2] at hk
    cases hk
  case case3 h1 _ h3 => exact .inr ⟨rfl, fun hs => hs.elim h1 fun ⟨_, _, _, _, hne⟩ => hne (beq_iff_eq.mp h3)⟩
  case case4 h1 _ _ hl => exact .inr ⟨rfl, fun hs => hs.elim h1 fun ⟨_, hk, _⟩ => nomatch hl.symm.trans hk⟩
  case case5 h1 _ _ key hl h4 =>
    exact .inr ⟨rfl, fun hs => hs.elim h1 fun ⟨k, hk, hlen, _⟩ => by simp [Option.some.inj (hl.symm.trans hk) ▸ hlen] at h4⟩
  case case6 _ _ h3 key hl h4 h5 =>
    exact .inl ⟨rfl, .inr ⟨key, hl, by simpa using h4, List.contains_iff_mem.mp h5, fun h => h3 (beq_iff_eq.mpr h)⟩⟩
  case case7 h1 _ _ key hl _ h5 =>
    exact .inr ⟨rfl, fun hs => hs.elim h1 fun ⟨k, hk, _, hv, _⟩ =>
      h5 (List.contains_iff_mem.mpr (Option.some.inj (hl.symm.trans hk) ▸ hv))⟩

theorem verifyMessage_ne_panic (st : NodeSt) (inst : Instance) (m : NMsg) : verifyMessage st inst m ≠ .panic := by
  rcases verifyMessage_cases st inst m with ⟨hv, _⟩ | ⟨hv, _⟩ <;> rw [hv] <;> exact Outcome.noConfusion

theorem doOrReject_some {j : Instance} {e : Ev} {a : Arg} {i' : Instance} {o : Out} (h : doOrReject j e a = some (i', o)) :
    (j.doEv e a).2.res = .ok ∧ i' = (j.doEv e a).1 ∧ o = (j.doEv e a).2 := by
  unfold doOrReject at h
  dsimp only at h
  split at h
  · rename_i hok
    cases h; exact ⟨by simpa using hok, rfl, rfl⟩
  · cases h

/-- `f` is `step1` or `step2` on `inst`: a restart under some condition on the instance -/
theorem restartIf_thread {c : Bool} {inst : Instance} {R : String} {now : Time} {f : NodeSt → Option (NodeSt × Instance)}
    (hf : ∀ st, f st = if c then restartSigning st inst R now else some (st, inst)) :
    (∀ st, f st = none) ∨
      ∃ i, (i = inst ∨ ∃ o, doOrReject inst .e_event_signing_restart (.default now) = some (i, o)) ∧ ∀ st, f st = some (st, i) := by
  simp only [hf]
  cases c with
  | false => exact .inr ⟨inst, .inl rfl, fun _ => rfl⟩
  | true =>
    unfold restartSigning
    cases h : doOrReject inst .e_event_signing_restart (.default now) with
    | none => exact .inl fun _ => rfl
    | some r => exact .inr ⟨r.1, .inr ⟨r.2, rfl⟩, fun _ => rfl⟩

/-- **the preliminary steps** do not look at the node state and hand it through: the message is swallowed, a restart
fails, or the loaded round goes on after at most two restarts (a batch cancelled by error, then by timeout) -/
theorem preSteps_thread (inst : Instance) (m : NMsg) (now : Time) :
    (∀ st, preSteps st inst m now = .swallow st) ∨ (∀ st, preSteps st inst m now = .fail st) ∨
      ∃ i1 i2, (i1 = inst ∨ ∃ o, doOrReject inst .e_event_signing_restart (.default now) = some (i1, o)) ∧
        (i2 = i1 ∨ ∃ o, doOrReject i1 .e_event_signing_restart (.default now) = some (i2, o)) ∧
        ∀ st, preSteps st inst m now = .cont st i2 := by
  by_cases h0 : errSwallow inst = true
  · exact .inl fun st => by simp only [preSteps, if_pos h0]
  rcases restartIf_thread (f := (step1 · inst m now)) (fun _ => rfl) with h1 | ⟨i1, c1, h1⟩
  · exact .inr (.inl fun st => by simp only [preSteps, if_neg h0, h1])
  by_cases h2 : toSwallow i1 = true
  · exact .inl fun st => by simp only [preSteps, if_neg h0, h1, if_pos h2]
  rcases restartIf_thread (f := (step2 · i1 m now)) (fun _ => rfl) with h3 | ⟨i2, c2, h3⟩
  · exact .inr (.inl fun st => by simp only [preSteps, if_neg h0, h1, if_neg h2, h3])
  · exact .inr (.inr ⟨i1, i2, c1, c2, fun st => by simp only [preSteps, if_neg h0, h1, if_neg h2, h3]⟩)

theorem preSteps_induct {Q : Instance → Prop} {st st2 : NodeSt} {inst inst2 : Instance} {m : NMsg} {now : Time}
    (hr : ∀ i i' o, Q i → doOrReject i .e_event_signing_restart (.default now) = some (i', o) → Q i')
    (h : preSteps st inst m now = .cont st2 inst2) (h0 : Q inst) : Q inst2 := by
  rcases preSteps_thread inst m now with hp | hp | ⟨i1, i2, c1, c2, hp⟩ <;> rw [hp] at h <;> cases h
  have q1 : Q i1 := by
    rcases c1 with rfl | ⟨o, c1⟩
    · exact h0
    · exact hr _ _ o h0 c1
  rcases c2 with rfl | ⟨o, c2⟩
  · exact q1
  · exact hr _ _ o q1 c2

theorem handOver_some {i i' : Instance} {e : Ev} {now : Time} {rs : Option St} {rd : Option RespData}
    (h : handOver i e now = some (i', rs, rd)) :
    ∃ r o, Instance.restore i.dumpState i.payload = some r ∧ doOrReject r e (.default now) = some (i', o) ∧
      rs = respStateOf o ∧ rd = respDataOf o := by
  revert h
  fun_cases handOver i e now
  case case2 r hr j o hd => rintro ⟨⟩; exact ⟨r, o, hr, hd, rfl, rfl⟩
  all_goals nofun

theorem firstHandOver_some {i3 i4 : Instance} {o3 : Out} {now : Time} {rs4 : Option St} {rd4 : Option RespData}
    (h : firstHandOver i3 o3 now = some (i4, rs4, rd4)) :
    (respStateOf o3 = some .s_state_sig_proposal_collected ∧ handOver i3 .e_event_dkg_init_process now = some (i4, rs4, rd4)) ∨
    (respStateOf o3 ≠ some .s_state_sig_proposal_collected ∧ i4 = i3 ∧ rs4 = respStateOf o3 ∧ rd4 = respDataOf o3) := by
  unfold firstHandOver at h
  split at h
  · rename_i hc; exact Or.inl ⟨by simpa using hc, h⟩
  · rename_i hc; cases h; exact Or.inr ⟨by simpa using hc, rfl, rfl, rfl⟩

theorem secondHandOver_some {i4 i5 : Instance} {now : Time} {rs4 rs5 : Option St} {rd4 rd5 : Option RespData}
    (h : secondHandOver i4 rs4 rd4 now = some (i5, rs5, rd5)) :
    (rs4 = some .s_state_dkg_master_key_collected ∧ handOver i4 .e_event_signing_init now = some (i5, rs5, rd5)) ∨
    (rs4 ≠ some .s_state_dkg_master_key_collected ∧ i5 = i4 ∧ rs5 = rs4 ∧ rd5 = rd4) := by
  unfold secondHandOver at h
  split at h
  · rename_i hc; exact Or.inl ⟨by simpa using hc, h⟩
  · rename_i hc; cases h; exact Or.inr ⟨by simpa using hc, rfl, rfl, rfl⟩

theorem restartAfterCollect_some {c : Bool} {i5 i6 : Instance} {now : Time} (h : restartAfterCollect c i5 now = some i6) :
    (c = true ∧ ∃ r o, Instance.restore i5.dumpState i5.payload = some r ∧
      doOrReject r .e_event_signing_restart (.default now) = some (i6, o)) ∨ (c = false ∧ i6 = i5) := by
  unfold restartAfterCollect at h
  split at h
  · rename_i hc
    split at h
    · cases h
    · rename_i r hr
      obtain ⟨x, hx, rfl⟩ := Option.map_eq_some_iff.mp h
      exact Or.inl ⟨hc, r, x.2, hr, hx⟩
  · rename_i hc; cases h; exact Or.inr ⟨by simpa using hc, rfl⟩

theorem no_handOver {i3 i4 i5 : Instance} {o3 : Out} {s : St} {now : Time} {rs4 rs5 : Option St} {rd4 rd5 : Option RespData}
    (hs : respStateOf o3 = some s) (n1 : s ≠ .s_state_sig_proposal_collected) (n2 : s ≠ .s_state_dkg_master_key_collected)
    (f1 : firstHandOver i3 o3 now = some (i4, rs4, rd4)) (f2 : secondHandOver i4 rs4 rd4 now = some (i5, rs5, rd5)) :
    i5 = i3 ∧ rs5 = some s ∧ rd5 = respDataOf o3 := by
  rcases firstHandOver_some f1 with ⟨c, _⟩ | ⟨_, rfl, rfl, rfl⟩
  · rw [hs] at c; exact absurd (Option.some.inj c) n1
  rcases secondHandOver_some f2 with ⟨c, _⟩ | ⟨_, rfl, rfl, rfl⟩
  · rw [hs] at c; exact absurd (Option.some.inj c) n2
  exact ⟨rfl, hs, rfl⟩


/-- the operation a handled event gives rise to (the local `op` of `finish`) -/
def opOf (rs5 : Option St) (rd5 : Option RespData) (m : NMsg) : Option NOp :=
  match rs5, rd5 with
  | some s, some d => if Dc4bcVerif.Gen.NodeGlue.operationStates.contains s.name then some ⟨s.name, m.round, d⟩ else none
  | _, _ => none

theorem placeholders_rounds (st st' : NodeSt) (m : NMsg) (payloadOf : Tasks.Msg → Bytes) (h : placeholders st m payloadOf = some st') :
    st'.rounds = st.rounds := by
  revert h
  fun_cases placeholders st m payloadOf
  case case2 => exact fun h => by obtain ⟨s, rfl⟩ := saveSignatures_some h; rfl
  case case4 => rintro ⟨⟩; rfl
  all_goals nofun


theorem saveSignatures_rounds_irrelevant (a : NodeSt) (R : List (String × DumpV)) (l : List RSig) :
    saveSignatures { a with rounds := R } l = (saveSignatures a l).map (fun y => { y with rounds := R }) := by
  unfold saveSignatures
  cases l with
  | nil => rfl
  | cons x t => rfl


theorem saveFSM_idem (st : NodeSt) (R : String) (d : DumpV) : saveFSM (saveFSM st R d) R d = saveFSM st R d := by
  unfold saveFSM
  simp only [assocSet_idem]


theorem putOperation_some {st st' : NodeSt} {op : NOp} (h : putOperation st op = some st') :
    st' = { st with ops := visibleOps st ++ [op] } := by
  revert h
  fun_cases putOperation st op
  · nofun
  · rintro ⟨⟩; rfl

theorem putOperationOnce_eq (st : NodeSt) (op : NOp) : ∃ ops, putOperationOnce st op = { st with ops := ops } := by
  fun_cases putOperationOnce st op
  case case1 st' h => exact ⟨_, putOperation_some h⟩
  case case2 => exact ⟨st.ops, rfl⟩

theorem processMessageTop_eq (st : NodeSt) (m : NMsg) (now : Time) (payloadOf : Tasks.Msg → Bytes) :
    processMessageTop st m now payloadOf =
      { processMessage st m now payloadOf with st := { (processMessage st m now payloadOf).st with
          ops := match (processMessage st m now payloadOf).out, (processMessage st m now payloadOf).op with
            | .ok, some op => (putOperationOnce (processMessage st m now payloadOf).st op).ops
            | _, _ => (processMessage st m now payloadOf).st.ops } } := by
  unfold processMessageTop
  generalize processMessage st m now payloadOf = r
  obtain ⟨s, out, op, sent⟩ := r
  cases out <;> cases op <;> try rfl
  obtain ⟨ops, h⟩ := putOperationOnce_eq s ‹_›
  dsimp only
  rw [h]

theorem deleteOperation_deleted {st st' : NodeSt} {op : NOp} (h : deleteOperation st op = some st') :
    st'.deleted = st.deleted ++ [op] := by
  revert h
  fun_cases deleteOperation st op
  · nofun
  · rintro ⟨⟩; rfl


theorem executeOperation_ne_panic (st : NodeSt) (sub : SubOp) : (executeOperation st sub).out ≠ .panic := by
  fun_cases executeOperation st sub
  · nofun
  · fun_cases execPost st sub _ <;> nofun
  · fun_cases execReinit st sub _ <;> nofun

/-- the replay loop of `reinitDKG` as an induction: what holds of the start state, does not look at the verification switch
and is kept by handling a message of round `R`, holds of the state the loop ends in -/
theorem reinitLoop_induct {Q : NodeSt → Prop} (self R : String) (skip0 : Bool) (now : Time) (payloadOf : Tasks.Msg → Bytes)
    (hskip : ∀ st b, Q st → Q { st with skipVerify := b })
    (hstep : ∀ st (im : InnerMsg), im.msg.round = R → Q st → Q (processMessage st im.msg now payloadOf).st)
    (st : NodeSt) (inner : List InnerMsg) (h : Q st) : Q (reinitLoop self R skip0 now payloadOf st inner).1 := by
  unfold reinitLoop
  refine List.foldlRecOn (motive := fun (acc : NodeSt × List NOp) => Q acc.1) _ _ h fun acc hacc im him => ?_
  have hr : im.msg.round = R := by
    have := (List.mem_filter.mp him).2
    unfold replayed at this
    simp only [Bool.and_eq_true, beq_iff_eq] at this
    exact this.1
  unfold reinitStep
  exact hskip _ _ (hstep _ im hr (hskip _ _ hacc))

theorem reinitDKG_cases {P : ReinitOut → Prop} (st : NodeSt) (req : ReinitReq) (now : Time) (payloadOf : Tasks.Msg → Bytes)
    (blank : blankId req.dkgId = true → P { st := st, out := .reject })
    (known : blankId req.dkgId = false → (lookupS st.rounds req.dkgId).isSome = true → P { st := st, out := .ok })
    (putRefused : ∀ st1 ops, blankId req.dkgId = false → (lookupS st.rounds req.dkgId).isSome = false →
      reinitLoop st.self req.dkgId st.skipVerify now payloadOf st req.inner = (st1, ops) →
      putOperation st1 ⟨"reinit_dkg", req.dkgId, .reinitOps (ops.map (·.type))⟩ = none → P { st := st1, out := .reject })
    (loadFailed : ∀ st1 ops st2, blankId req.dkgId = false → (lookupS st.rounds req.dkgId).isSome = false →
      reinitLoop st.self req.dkgId st.skipVerify now payloadOf st req.inner = (st1, ops) →
      putOperation st1 ⟨"reinit_dkg", req.dkgId, .reinitOps (ops.map (·.type))⟩ = some st2 →
      getInstance st2 req.dkgId = none → P { st := st2, out := .reject })
    (saved : ∀ st1 ops st2 st3 inst, blankId req.dkgId = false → (lookupS st.rounds req.dkgId).isSome = false →
      reinitLoop st.self req.dkgId st.skipVerify now payloadOf st req.inner = (st1, ops) →
      putOperation st1 ⟨"reinit_dkg", req.dkgId, .reinitOps (ops.map (·.type))⟩ = some st2 →
      getInstance st2 req.dkgId = some (st3, inst) →
      P { st := saveFSM st2 req.dkgId (inst.dumpState, { inst.payload with
            pubKeys := req.participants.foldl (fun acc nk => assocSet acc nk.1 nk.2) inst.payload.pubKeys }), out := .ok }) :
    P (reinitDKG st req now payloadOf) := by
  fun_cases reinitDKG st req now payloadOf
  case case1 hb => exact blank hb
  case case2 hb hk => exact known (eq_false_of_ne_true hb) hk
  case case3 hb hk st1 ops hl _ hp => exact putRefused st1 ops (eq_false_of_ne_true hb) (eq_false_of_ne_true hk) hl hp
  case case4 hb hk st1 ops hl _ st2 hp hg =>
    exact loadFailed st1 ops st2 (eq_false_of_ne_true hb) (eq_false_of_ne_true hk) hl hp hg
  case case5 hb hk st1 ops hl _ st2 hp st3 inst hg _ =>
    exact saved st1 ops st2 st3 inst (eq_false_of_ne_true hb) (eq_false_of_ne_true hk) hl hp hg

theorem reinitDKG_inv {Q : NodeSt → Prop} (st : NodeSt) (req : ReinitReq) (now : Time) (payloadOf : Tasks.Msg → Bytes)
    (hskip : ∀ st b, Q st → Q { st with skipVerify := b })
    (hstep : ∀ st (im : InnerMsg), im.msg.round = req.dkgId → Q st → Q (processMessage st im.msg now payloadOf).st)
    (hops : ∀ st ops, Q st → Q { st with ops := ops })
    (hsave : ∀ st2 st3 inst keys, Q st2 → getInstance st2 req.dkgId = some (st3, inst) →
      Q (saveFSM st2 req.dkgId (inst.dumpState, { inst.payload with pubKeys := keys })))
    (h : Q st) : Q (reinitDKG st req now payloadOf).st := by
  have hloop := reinitLoop_induct st.self req.dkgId st.skipVerify now payloadOf hskip hstep st req.inner h
  refine reinitDKG_cases (P := fun r => Q r.st) st req now payloadOf (fun _ => h) (fun _ _ => h) ?_ ?_ ?_
  · intro st1 ops _ _ hl _
    rwa [hl] at hloop
  · intro st1 ops st2 _ _ hl hp _
    rw [hl] at hloop
    cases putOperation_some hp
    exact hops _ _ hloop
  · intro st1 ops st2 st3 inst _ _ hl hp hg
    rw [hl] at hloop
    cases putOperation_some hp
    exact hsave _ _ _ _ (hops _ _ hloop) hg

end Dc4bcVerif.Model.Node
