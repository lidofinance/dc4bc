/-
  The signing machine in `state_signing_await_partial_signs`: what the two public events, the proposal
  that opens a batch and the auto-validator do, as equations, and the rows of the generated table they rest on;
  the rows of the hand-over `event_signing_init` that starts the machine.
-/
import Dc4bcVerif.Lemmas.MasterKeyPhase

namespace Dc4bcVerif.Model
open Dc4bcVerif.Gen

abbrev sIDLE : St := .s_stage_signing_idle
abbrev sAWAIT : St := .s_state_signing_await_partial_signs
abbrev sCOLLECTED : St := .s_state_signing_partial_signs_collected
abbrev sCANCERR : St := .s_state_signing_partial_signs_await_cancelled_by_error
abbrev sCANCTO : St := .s_state_signing_partial_signs_await_cancelled_by_timeout
abbrev eRECEIVED : Ev := .e_event_signing_partial_sign_received
abbrev eSIGNERR : Ev := .e_event_signing_partial_sign_error_received
abbrev eVALIDATE : Ev := .e_event_signing_partial_signs_await_validate
abbrev eSTART : Ev := .e_event_signing_start
abbrev eRESTART : Ev := .e_event_signing_restart

def markProcess (sc : SignConf) : SignConf := { sc with quorum := sc.quorum.map (fun q => { q with status := 3 }) }

theorem sign_lookup_received : lookup signMachine sAWAIT eRECEIVED = some ⟨eRECEIVED, sAWAIT, false, false, 0⟩ := by decide
theorem sign_lookup_signerr : lookup signMachine sAWAIT eSIGNERR = some ⟨eSIGNERR, sAWAIT, false, false, 0⟩ := by decide
theorem sign_lookup_start : lookup signMachine sIDLE eSTART = some ⟨eSTART, sAWAIT, false, false, 0⟩ := by decide
theorem sign_lookup_restart {s : St} (hs : s = sCOLLECTED ∨ s = sCANCERR ∨ s = sCANCTO) :
    lookup signMachine s eRESTART = some ⟨eRESTART, sIDLE, false, false, 0⟩ := by
  rcases hs with rfl | rfl | rfl <;> decide
theorem sign_cb_received : callbackOf signMachine eRECEIVED = some .sign_actionPartialSignConfirmationReceived := by decide
theorem sign_cb_signerr : callbackOf signMachine eSIGNERR = some .sign_actionConfirmationError := by decide
theorem sign_cb_start : callbackOf signMachine eSTART = some .sign_actionStartSigningProposal := by decide
theorem sign_cb_validate : callbackOf signMachine eVALIDATE = some .sign_actionValidateSigningPartialSignsAwaitConfirmations := by decide
theorem sign_cb_restart : callbackOf signMachine eRESTART = some .sign_actionSigningRestart := by decide
theorem sign_auto_await : autoLookup signMachine sAWAIT 2 = some ⟨eVALIDATE, sAWAIT, true, true, 2⟩ := by decide
theorem idle_no_auto : autoLookup signMachine sIDLE 2 = none := by decide
theorem sign_set_validate : setState signMachine sAWAIT eVALIDATE = some sAWAIT := by decide
theorem sign_set_confirmed : setState signMachine sAWAIT .e_event_signing_partial_signs_confirmed_internal = some sCOLLECTED := by decide
theorem sign_set_cancerr : setState signMachine sAWAIT .e_event_signing_partial_signs_await_sign_cancel_by_error_internal = some sCANCERR := by decide
theorem sign_set_cancto : setState signMachine sAWAIT .e_event_signing_partial_signs_await_cancel_by_timeout_internal = some sCANCTO := by decide

theorem sign_await_public : publicFrom signMachine sAWAIT = [eRECEIVED, eSIGNERR] := by decide
theorem sign_idle_public : publicFrom signMachine sIDLE = [eSTART] := by decide

theorem sign_await_other (e : Ev) (h1 : e ≠ eRECEIVED) (h2 : e ≠ eSIGNERR) :
    (lookup signMachine sAWAIT e).all (·.isInternal) = true :=
  lookup_internal_of_not_public (by simp [sign_await_public, h1, h2])

theorem sign_idle_other (e : Ev) (h1 : e ≠ eSTART) : (lookup signMachine sIDLE e).all (·.isInternal) = true :=
  lookup_internal_of_not_public (by simp [sign_idle_public, h1])

abbrev eSignInit : Ev := .e_event_signing_init

theorem sign_lookup_init : lookup signMachine sMKCollected eSignInit = some ⟨eSignInit, sIDLE, false, false, 0⟩ := by decide
theorem sign_cb_init : callbackOf signMachine eSignInit = some .sign_actionInitSigningProposal := by decide
theorem sign_mkc_public : publicFrom signMachine sMKCollected = [eSignInit] := by decide

theorem sign_init_default (e : Ev) (p : Payload) (ts : Time) :
    sign_actionInitSigningProposal e p (.default ts) =
      if isZeroTime ts then aErr p
      else aOk { p with sign := some { createdAt := ts, expiresAt := ts + Config.signingConfirmationDeadline } } := rfl

theorem sign_init_spec (e : Ev) (p : Payload) (a : Arg) :
    let o := sign_actionInitSigningProposal e p a
    o = aErr p ∨ ∃ ts, a = .default ts ∧ isZeroTime ts = false ∧
      o = aOk { p with sign := some { createdAt := ts, expiresAt := ts + Config.signingConfirmationDeadline } } := by
  cases a with
  | default ts =>
    dsimp only
    rw [sign_init_default]
    cases h : isZeroTime ts
    · exact .inr ⟨ts, rfl, h, rfl⟩
    · exact .inl rfl
  | _ => exact .inl rfl

theorem sign_init_creates (e : Ev) (p : Payload) (a : Arg) (h : (sign_actionInitSigningProposal e p a).res = .ok) :
    (sign_actionInitSigningProposal e p a).payload.sign.isSome = true := by
  rcases sign_init_spec e p a with h' | ⟨ts, -, -, h'⟩ <;> rw [h'] at h ⊢
  · cases h
  · rfl

theorem sign_received_spec (p : Payload) (e : Ev) (a : Arg) :
    let o := sign_actionPartialSignConfirmationReceived e p a
    o.outEvent = none ∧ o.data = none ∧ (o.res = .err → o.payload = p) ∧
    (o.res = .ok → ∃ b pid signs ts sc part sg ps,
        a = .partialSigns b pid signs ts ∧ p.sign = some sc ∧ p.sig = some sg ∧ b = sc.batchId ∧
        getAt sc.quorum pid = some part ∧ part.status = 0 ∧
        o.payload = { p with
          sign := some { sc with quorum := setAt sc.quorum pid { part with partialSigns := ps, status := 1, updatedAt := ts } },
          sig := some { sg with updatedAt := ts } }) := by
  intro o
  subst o
  fun_cases sign_actionPartialSignConfirmationReceived e p a
  case case2 => exact ⟨rfl, rfl, nofun, nofun⟩  -- no signing data: panic
  case case6 => exact ⟨rfl, rfl, nofun, nofun⟩  -- no invitation data: panic
  case case7 b pid signs ts _ sc hs hb part hg hst _ _ _ sg hsg =>  -- accepted
    exact ⟨rfl, rfl, nofun, fun _ => ⟨b, pid, signs, ts, sc, part, sg, _, rfl, hs, hsg, by simpa using hb, hg,
      by simpa using hst, rfl⟩⟩
  all_goals exact ⟨rfl, rfl, fun _ => rfl, nofun⟩

theorem sign_signerr_spec (p : Payload) (a : Arg) :
    let o := sign_actionConfirmationError eSIGNERR p a
    o.outEvent = none ∧ o.data = none ∧ (o.res = .err → o.payload = p) ∧
    (o.res = .ok → ∃ pid err ts sc part sg,
        a = .signErr pid err ts ∧ p.sign = some sc ∧ p.sig = some sg ∧
        getAt sc.quorum pid = some part ∧ part.status = 0 ∧
        o.payload = { p with
          sign := some { sc with quorum := setAt sc.quorum pid { part with status := 2, error := err, updatedAt := ts } },
          sig := some { sg with updatedAt := ts } }) := by
  intro o
  subst o
  fun_cases sign_actionConfirmationError eSIGNERR p a
  case case2 => exact ⟨rfl, rfl, nofun, nofun⟩  -- no signing data: panic
  case case6 => exact ⟨rfl, rfl, nofun, nofun⟩  -- no invitation data: panic
  case case7 pid err ts _ sc hs part hg _ hst _ _ sg hsg =>  -- accepted
    exact ⟨rfl, rfl, nofun, fun _ => ⟨pid, err, ts, sc, part, sg, rfl, hs, hsg, hg, by simpa using hst, rfl⟩⟩
  all_goals exact ⟨rfl, rfl, fun _ => rfl, nofun⟩

/-- the signing payload right after an accepted proposal: fresh quorum, everybody awaited -/
def startedSign (sc : SignConf) (dc : DkgConf) (b : String) (pid : Int) (ts : Time) (tasks : List Task) : SignConf :=
  { sc with
    createdAt := ts, batchId := b, initiatorId := pid, srcPayload := tasks,
    quorum := dc.quorum.map (fun q => ({ username := q.username, status := 0, updatedAt := ts } : SignPart)) }

theorem sign_start_spec (p : Payload) (a : Arg) :
    let o := sign_actionStartSigningProposal eSTART p a
    (o.res = .err → o.payload = p) ∧
    (o.res = .ok → o.outEvent = some eSTART ∧ ∃ b pid ts tasks sc dc,
        a = .signStart b pid ts tasks ∧ p.sign = some sc ∧ p.dkg = some dc ∧ b ≠ "" ∧
        o.payload = { p with sign := some (startedSign sc dc b pid ts tasks) }) := by
  intro o
  subst o
  fun_cases sign_actionStartSigningProposal eSTART p a
  case case2 b pid ts tasks hv sc dc hd hs _ _ _ =>  -- accepted
    exact ⟨nofun, fun _ => ⟨rfl, b, pid, ts, tasks, sc, dc, rfl, hs, hd, by intro hb; simp [hb] at hv, rfl⟩⟩
  case case3 => exact ⟨nofun, nofun⟩  -- a part is missing: panic
  all_goals exact ⟨fun _ => rfl, nofun⟩

theorem runAction_received : runAction .sign_actionPartialSignConfirmationReceived = sign_actionPartialSignConfirmationReceived := rfl
theorem runAction_signerr : runAction .sign_actionConfirmationError = sign_actionConfirmationError := rfl
theorem runAction_start : runAction .sign_actionStartSigningProposal = sign_actionStartSigningProposal := rfl
theorem runAction_validate : runAction .sign_actionValidateSigningPartialSignsAwaitConfirmations = sign_actionValidateSigningPartialSignsAwaitConfirmations := rfl

/-- the common tail of an accepted event in (or into) `await`: the auto-validator runs and decides -/
def signAfterValidate (o : AOut) (a : Arg) : Out :=
  autoTail signMachine sAWAIT eVALIDATE o (sign_actionValidateSigningPartialSignsAwaitConfirmations eVALIDATE o.payload a)

/-- the validator's verdict, by its tests in their order: deadline, failures, confirmations -/
theorem signAfterValidate_cases (o : AOut) (a : Arg) (sc : SignConf) (hs : o.payload.sign = some sc) :
    let out := signAfterValidate o a
    let n : Int := sc.quorum.length
    out.res = .ok ∧
    ((sc.expiresAt < sc.updatedAt ∧ out.state = sCANCTO ∧ out.payload = o.payload) ∨
     (¬ sc.expiresAt < sc.updatedAt ∧ cntSt sc 2 > n - o.payload.threshold ∧ out.state = sCANCERR ∧ out.payload = o.payload) ∨
     (¬ sc.expiresAt < sc.updatedAt ∧ ¬ cntSt sc 2 > n - o.payload.threshold ∧ n - cntSt sc 1 > n - o.payload.threshold ∧
      out.state = sAWAIT ∧ out.payload = o.payload) ∨
     (¬ sc.expiresAt < sc.updatedAt ∧ ¬ cntSt sc 2 > n - o.payload.threshold ∧ ¬ n - cntSt sc 1 > n - o.payload.threshold ∧
      out.state = sCOLLECTED ∧ out.payload = { o.payload with sign := some (markProcess sc) })) := by
  dsimp only [signAfterValidate]
  fun_cases sign_actionValidateSigningPartialSignsAwaitConfirmations eVALIDATE o.payload a
  case case1 hn => rw [hs] at hn; cases hn  -- no signing data
  case case2 sc' hs' h1 =>  -- expired
    cases hs.symm.trans hs'
    rw [aOk, autoTail_ok (by exact sign_set_cancto)]
    exact ⟨rfl, .inl ⟨h1, rfl, rfl⟩⟩
  case case3 sc' hs' h1 _ _ h2 =>  -- too many failures
    cases hs.symm.trans hs'
    rw [aOk, autoTail_ok (by exact sign_set_cancerr)]
    exact ⟨rfl, .inr (.inl ⟨h1, h2, rfl, rfl⟩)⟩
  case case4 sc' hs' h1 _ _ _ h2 h3 =>  -- still waiting
    cases hs.symm.trans hs'
    rw [aOk, autoTail_ok (by exact sign_set_validate)]
    exact ⟨rfl, .inr (.inr (.inl ⟨h1, h2, h3, rfl, rfl⟩))⟩
  case case5 sc' hs' h1 _ _ _ h2 h3 _ _ =>  -- enough confirmations
    cases hs.symm.trans hs'
    rw [aOk, autoTail_ok (by exact sign_set_confirmed)]
    exact ⟨rfl, .inr (.inr (.inr ⟨h1, h2, h3, rfl, rfl⟩))⟩

theorem signAfterValidate_payload (o : AOut) (a : Arg) (sc : SignConf) (hs : o.payload.sign = some sc) :
    (signAfterValidate o a).payload = o.payload ∨
    ((signAfterValidate o a).state = sCOLLECTED ∧
      (signAfterValidate o a).payload = { o.payload with sign := some (markProcess sc) }) := by
  rcases (signAfterValidate_cases o a sc hs).2 with ⟨_, _, h⟩ | ⟨_, _, _, h⟩ | ⟨_, _, _, _, h⟩ | ⟨_, _, _, h⟩
  · exact .inl h
  · exact .inl h
  · exact .inl h
  · exact .inr h

theorem signAfterValidate_ok_sign {o : AOut} {a : Arg} (hok : (signAfterValidate o a).res = .ok) : ∃ sc, o.payload.sign = some sc := by
  cases hs : o.payload.sign with
  | some sc => exact ⟨sc, rfl⟩
  | none =>
    -- without signing data the validator panics
    have hv := autoTail_res_ok hok
    unfold sign_actionValidateSigningPartialSignsAwaitConfirmations at hv
    rw [hs] at hv
    cases hv

theorem sign_do_received (p : Payload) (a : Arg) :
    doEvent signMachine runAction sAWAIT p eRECEIVED a =
      let o := sign_actionPartialSignConfirmationReceived eRECEIVED p a
      if o.res != .ok then ⟨some (none, o.data), o.res, sAWAIT, o.payload⟩
      else signAfterValidate o a := by
  rw [doEvent_then_auto sign_lookup_received rfl (no_before_auto .sign sAWAIT) sign_cb_received
    (fun _ => .inl (sign_received_spec p eRECEIVED a).1) sign_auto_await sign_cb_validate]
  rfl

theorem sign_do_signerr (p : Payload) (a : Arg) :
    doEvent signMachine runAction sAWAIT p eSIGNERR a =
      let o := sign_actionConfirmationError eSIGNERR p a
      if o.res != .ok then ⟨some (none, o.data), o.res, sAWAIT, o.payload⟩
      else signAfterValidate o a := by
  rw [doEvent_then_auto sign_lookup_signerr rfl (no_before_auto .sign sAWAIT) sign_cb_signerr
    (fun _ => .inl (sign_signerr_spec p a).1) sign_auto_await sign_cb_validate]
  rfl

theorem sign_do_start (p : Payload) (a : Arg) :
    doEvent signMachine runAction sIDLE p eSTART a =
      let o := sign_actionStartSigningProposal eSTART p a
      if o.res != .ok then ⟨some (none, o.data), o.res, sIDLE, o.payload⟩
      else signAfterValidate o a := by
  rw [doEvent_then_auto sign_lookup_start rfl (no_before_auto .sign sIDLE) sign_cb_start
    (fun hok => .inr ((sign_start_spec p a).2 hok).1) sign_auto_await sign_cb_validate]
  rfl

theorem sign_restart (s : St) (hs : s = sCOLLECTED ∨ s = sCANCERR ∨ s = sCANCTO) (p : Payload) (a : Arg) :
    (doEvent signMachine runAction s p eRESTART a).state = sIDLE ∧
    (doEvent signMachine runAction s p eRESTART a).res = .ok ∧
    (doEvent signMachine runAction s p eRESTART a).payload = p := by
  rw [doEvent_std (sign_lookup_restart hs) rfl (no_before_auto .sign _) sign_cb_restart]
  simp only [runAction, sign_actionSigningRestart, aOk]
  rw [doTrAfter_plain (s1 := sIDLE) (by exact setState_of_lookup (sign_lookup_restart hs)) idle_no_auto]
  exact ⟨rfl, rfl, rfl⟩

end Dc4bcVerif.Model
