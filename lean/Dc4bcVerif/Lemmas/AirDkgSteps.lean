/-
  What each step of the airgapped machine's key generation (`Model/AirDkg.lean`) does, as lemmas of the model's own
  definitions: the equations of `verifyDeal` and `processEncryptedDeal`; what `dkgProcessDeal` and `dkgProcessResponse` can
  change; what the loops keep; and the four handlers. The deals, responses and master-key handlers are one combinator (`onRound`)
  applied to a function on the round's instance (`dealsOp_eq`, `responsesOp_eq`, `masterKeyOp_eq`), so that what holds of
  every handler is proved once, about `onRound`; what holds of one handler on one machine is read off the branches of its
  definition. The commits step, for which there is no instance yet: `commitsOp_filed`, `commitsOp_rings`. Core-only.
-/
import Dc4bcVerif.Model.AirDkg

-- every statement carries all instance binders of the `variable` line, whether it uses them or not
set_option linter.unusedSectionVars false

namespace Dc4bcVerif.Lemmas.AirDkgSteps
open Dc4bcVerif.Model.Shamir Dc4bcVerif.Model.AirDkg

variable {F : Type} [Add F] [Mul F] [Sub F] [Div F] [Zero F] [One F] [DecidableEq F] [NatCast F]
variable {K : Type} [DecidableEq K]

theorem lookup_put_eq {V : Type} (k k' : String) (v : V) (l : List (String × V)) :
    lookup k (put k' v l) = if k' = k then some v else lookup k l := by
  fun_induction put k' v l <;> by_cases k' = k <;> simp_all [lookup]

theorem lookup_put_self {V : Type} (k : String) (v : V) (l : List (String × V)) : lookup k (put k v l) = some v :=
  (lookup_put_eq ..).trans (if_pos rfl)

theorem lookup_put_ne {V : Type} (k k' : String) (v : V) (l : List (String × V)) (h : k' ≠ k) :
    lookup k' (put k v l) = lookup k' l :=
  (lookup_put_eq ..).trans (if_neg (Ne.symm h))

theorem lookupN_append (j k : Nat) (s : Bool) (l : List (Nat × Bool)) :
    lookupN j (l ++ [(k, s)]) = match lookupN j l with
      | some b => some b
      | none => if k = j then some s else none := by
  fun_induction lookupN j l <;> simp_all [lookupN]

theorem addResp_eq_some {k : Nat} {s : Bool} {l l' : List (Nat × Bool)} :
    addResp k s l = some l' ↔ lookupN k l = none ∧ l' = l ++ [(k, s)] := by
  unfold addResp
  cases lookupN k l <;> simp [eq_comm]

theorem addResp_some {k : Nat} {s : Bool} {l l' : List (Nat × Bool)} (h : addResp k s l = some l') :
    lookupN k l = none ∧ lookupN k l' = some s ∧ ∀ j, j ≠ k → lookupN j l' = lookupN j l := by
  obtain ⟨hn, rfl⟩ := addResp_eq_some.mp h
  refine ⟨hn, by simp [lookupN_append, hn], fun j hj => ?_⟩
  rw [lookupN_append]
  cases lookupN j l with
  | some b => rfl
  | none => simp [Ne.symm hj]

theorem lookupN_setResp_ne (j k : Nat) (s : Bool) (l : List (Nat × Bool)) (h : j ≠ k) :
    lookupN j (setResp k s l) = lookupN j l := by
  fun_induction setResp k s l <;> simp_all [lookupN, Ne.symm h]

/-- the early returns of `VerifyDeal` are one conjunction -/
theorem verdict_eq (n : Nat) (w : Verifier F) (first d : PlainDeal F) :
    (if !validT d.thr n then (w, Verdict.bad)
      else if d.thr ≠ first.thr then (w, .bad)
      else if first.sid ≠ d.sid then (w, .bad)
      else if !(decide (d.secI < n)) then (w, .bad)
      else if evalPoly d.commits (node d.secI) ≠ d.secV then (w, .bad)
      else (w, .ok)) =
    (w, if validT d.thr n = true ∧ d.thr = first.thr ∧ first.sid = d.sid ∧ d.secI < n ∧ evalPoly d.commits (node d.secI) = d.secV
        then .ok else .bad) := by
  by_cases h1 : validT d.thr n = true
  · by_cases h2 : d.thr = first.thr
    · by_cases h3 : first.sid = d.sid
      · by_cases h4 : d.secI < n
        · by_cases h5 : evalPoly d.commits (node d.secI) = d.secV
          · simp [h1, ← h2, h3, h4, h5]
          · simp [h1, ← h2, h3, h4, h5]
        · simp [h1, ← h2, h3, h4]
      · simp [h1, ← h2, h3]
    · simp [h1, h2]
  · simp [h1]

/-- A verifier keeps the first deal it is shown; that one is tested against itself, every later one against it. -/
theorem verifyDeal_eq (n : Nat) (v : Verifier F) (d : PlainDeal F) (incl : Bool) :
    verifyDeal n v d incl =
      match v.deal with
      | some first =>
        (v, if incl then .already
          else if validT d.thr n = true ∧ d.thr = first.thr ∧ first.sid = d.sid ∧ d.secI < n ∧ evalPoly d.commits (node d.secI) = d.secV
          then .ok else .bad)
      | none =>
        ({ v with deal := some d },
          if validT d.thr n = true ∧ d.secI < n ∧ evalPoly d.commits (node d.secI) = d.secV then .ok else .bad) := by
  unfold verifyDeal
  cases hd : v.deal with
  | some first =>
    cases incl
    · simp only [Option.isSome_some, Option.isNone_some, Bool.and_false, Bool.false_eq_true, if_false, hd]
      exact verdict_eq n v first d
    · simp
  | none =>
    simp only [Option.isSome_none, Option.isNone_none, Bool.false_and, Bool.false_eq_true, if_false, if_true]
    rw [verdict_eq n _ d d]
    simp

theorem processEncryptedDeal_eq (n own : Nat) (v : Verifier F) (inner : Option (PlainDeal F)) :
    processEncryptedDeal n own v inner =
      match inner, v.deal with
      | some d, none =>
        if d.secI ≠ own then (v, none) else
        let st := decide (validT d.thr n = true ∧ d.secI < n ∧ evalPoly d.commits (node d.secI) = d.secV)
        match addResp own st v.resp with
        | none => ({ v with deal := some d }, none)
        | some r => ({ v with deal := some d, resp := r }, some st)
      | _, _ => (v, none) := by
  unfold processEncryptedDeal
  cases inner with
  | none => rfl
  | some d =>
    simp only
    by_cases hI : d.secI ≠ own
    · rw [if_pos hI]; cases v.deal <;> simp [hI]
    rw [if_neg hI, verifyDeal_eq]
    cases v.deal with
    | some first => rfl
    | none =>
      simp only [if_neg hI]
      by_cases h : validT d.thr n = true ∧ d.secI < n ∧ evalPoly d.commits (node d.secI) = d.secV
      · rw [if_pos h, decide_eq_true h]; rfl
      · rw [if_neg h, decide_eq_false h]; rfl

theorem processEncryptedDeal_some {n own : Nat} {v v' : Verifier F} {inner : Option (PlainDeal F)} {st : Bool} :
    processEncryptedDeal n own v inner = (v', some st) ↔
      ∃ d, inner = some d ∧ d.secI = own ∧ v.deal = none ∧ lookupN own v.resp = none ∧
        v' = { v with deal := some d, resp := v.resp ++ [(own, st)] } ∧
        (st = true ↔ validT d.thr n = true ∧ d.secI < n ∧ evalPoly d.commits (node d.secI) = d.secV) := by
  rw [processEncryptedDeal_eq]
  constructor
  · intro h
    split at h
    · rename_i d hd
      split at h
      · cases h
      · rename_i hI
        simp only at h
        split at h
        · cases h
        · rename_i r ha
          cases h
          obtain ⟨hn, rfl⟩ := addResp_eq_some.mp ha
          exact ⟨d, rfl, Decidable.not_not.mp hI, hd, hn, rfl, by simp⟩
    · cases h
  · rintro ⟨d, rfl, rfl, hd, hn, rfl, hst⟩
    have : st = decide (validT d.thr n = true ∧ d.secI < n ∧ evalPoly d.commits (node d.secI) = d.secV) := by
      cases st <;> simp_all
    simp only [hd, ne_eq, not_true_eq_false, if_false, ← this, addResp_eq_some.mpr ⟨hn, rfl⟩]

theorem lookupN_unsafeSet (j k : Nat) (s : Bool) (v : Verifier F) :
    lookupN j (unsafeSet k s v).resp = match lookupN j v.resp with
      | some b => some b
      | none => if k = j then some s else none := by
  unfold unsafeSet addResp
  cases hk : lookupN k v.resp with
  | none => exact lookupN_append j k s v.resp
  | some b =>
    cases hj : lookupN j v.resp with
    | some c => simp
    | none =>
      have : k ≠ j := fun e => by rw [e, hj] at hk; cases hk
      simp [this]

theorem unsafeSet_deal (k : Nat) (s : Bool) (v : Verifier F) : (unsafeSet k s v).deal = v.deal := by
  fun_cases unsafeSet k s v <;> rfl

theorem dkgProcessDeal_fst (i : Inst F K) (od : OuterDeal F) : ∃ vers, (dkgProcessDeal i od).1 = { i with vers := vers } := by
  fun_cases dkgProcessDeal i od <;> exact ⟨_, rfl⟩

theorem processDeals_keeps {P : Inst F K → Prop} (step : ∀ i od, P i → P (dkgProcessDeal i od).1) (ord : List String) :
    ∀ i acc, P i → P (processDeals i ord acc).1 := by
  intro i acc
  fun_induction processDeals i ord acc
  case case1 => exact id
  -- a name without a deal, the own deal: passed over
  case case2 ih => exact ih
  case case3 ih => exact ih
  -- one step, then the loop ends (the vss layer refuses; no approval or other commitments than the broadcast ones) ...
  case case4 i _ _ _ od _ _ i' e => exact fun h => by simpa [e] using step i od h
  case case5 i _ _ _ od _ _ i' _ _ e => exact fun h => by simpa [e] using step i od h
  -- ... or goes on
  case case6 i _ _ _ od _ _ i' _ _ e ih => exact fun h => ih (by simpa [e] using step i od h)

/-- `w` holds the deal of `v`, and the answers of `v` except, possibly, that of index `k` -/
def SameBut (k : Nat) (v w : Verifier F) : Prop :=
  w.deal = v.deal ∧ ∀ j, j ≠ k → lookupN j w.resp = lookupN j v.resp

theorem SameBut.refl (k : Nat) (v : Verifier F) : SameBut k v v := ⟨rfl, fun _ _ => rfl⟩

theorem SameBut.trans {k : Nat} {u v w : Verifier F} (h1 : SameBut k u v) (h2 : SameBut k v w) : SameBut k u w :=
  ⟨h2.1.trans h1.1, fun j hj => (h2.2 j hj).trans (h1.2 j hj)⟩

theorem verProcessResponse_some {n : Nat} {v v1 : Verifier F} {r : RespMsg F} (h : verProcessResponse n v r = some v1) :
    v.deal.isSome = true ∧ SameBut r.ver v v1 := by
  revert h
  fun_cases verProcessResponse n v r
  case case6 hd _ _ _ l ha => rintro ⟨⟩; exact ⟨by rw [hd]; rfl, rfl, (addResp_some ha).2.2⟩
  all_goals nofun

theorem justify_sameBut (n : Nat) (i : Inst F K) {v : Verifier F} (k : Nat) (hs : v.deal.isSome = true) :
    SameBut k v (justify n i v k).1 := by
  have hv : ∀ d, (verifyDeal n v d false).1 = v := fun d => by
    obtain ⟨first, hd⟩ := Option.isSome_iff_exists.mp hs
    rw [verifyDeal_eq, hd]
  fun_cases justify n i v k
  case case4 d _ v' e =>
    obtain rfl : v' = v := by rw [← hv d, e]
    exact ⟨rfl, fun j hj => lookupN_setResp_ne j k true _ hj⟩
  case case5 d _ v' _ e _ =>
    obtain rfl : v' = v := by rw [← hv d, e]
    exact ⟨rfl, fun _ _ => rfl⟩
  all_goals exact SameBut.refl k v

/-- A response touches at most the verifier of its dealer, and there at most the answer of index `r.ver`; the deal stays -
also where a complaint about the own deal is justified on the spot (`justify_sameBut`). -/
theorem dkgProcessResponse_fst (i : Inst F K) (r : RespMsg F) :
    ∃ vers dr, (dkgProcessResponse i r).1 = { i with vers := vers, dealerResp := dr } ∧
      (vers = i.vers ∨ ∃ v v', i.vers[r.dealer]? = some v ∧ SameBut r.ver v v' ∧ vers = i.vers.set r.dealer v') := by
  fun_cases dkgProcessResponse i r
  -- no verifier for the dealer / the vss layer refuses the response: nothing is written
  case case1 | case2 => exact ⟨_, _, rfl, .inl rfl⟩
  -- a complaint about the own deal: `justify` works on the verifier `v1` just written and leaves `v2`
  case case8 _ v hv v1 hp _ _ _ _ dr _ _ _ v2 ok hj =>
    obtain ⟨hs, h1⟩ := verProcessResponse_some hp
    have h2 := justify_sameBut i.keys.length { i with vers := i.vers.set r.dealer v1, dealerResp := dr } (v := v1) r.ver
      (by rw [h1.1]; exact hs)
    rw [hj] at h2
    exact ⟨_, dr, by simp +zetaDelta only [List.set_set], .inr ⟨v, v2, hv, h1.trans h2, rfl⟩⟩
  -- the five branches that write `v1` and nothing more of the verifiers (another dealer's response; the own deal's, refused
  -- by the dealer side or approved): the verifier of `r.dealer`, changed at `r.ver` only
  all_goals exact ⟨_, _, rfl, .inr ⟨_, _, ‹_ = some _›, (verProcessResponse_some ‹_›).2, rfl⟩⟩

theorem dkgProcessResponse_pid (i : Inst F K) (r : RespMsg F) :
    (dkgProcessResponse i r).1.pid = i.pid ∧ (dkgProcessResponse i r).1.keys = i.keys := by
  obtain ⟨_, _, h, _⟩ := dkgProcessResponse_fst i r
  rw [h]; exact ⟨rfl, rfl⟩

theorem storeCommits_fst (es : List (String × Option (List F))) : ∀ i : Inst F K,
    ∃ c, (storeCommits i es).1 = { i with commits := c } := by
  intro i
  fun_induction storeCommits i es
  case case3 ih => exact ih
  all_goals exact ⟨_, rfl⟩

theorem storeDeals_fst (es : List (Int × String × Option (OuterDeal F))) : ∀ i : Inst F K,
    ∃ d, (storeDeals i es).1 = { i with deals := d } := by
  intro i
  fun_induction storeDeals i es
  case case2 ih | case5 ih => exact ih
  all_goals exact ⟨_, rfl⟩

theorem storeResponses_fst (es : List (String × Option (List (RespMsg F)))) : ∀ i : Inst F K,
    ∃ s, (storeResponses i es).1 = { i with store := s } := by
  intro i
  fun_induction storeResponses i es
  case case3 ih => exact ih
  all_goals exact ⟨_, rfl⟩

theorem processRespList_keeps {P : Inst F K → Prop} (step : ∀ i r, r.ver ≠ i.pid → P i → P (dkgProcessResponse i r).1)
    (rs : List (RespMsg F)) : ∀ i, P i → P (processRespList i rs).1 := by
  intro i
  fun_induction processRespList i rs
  case case1 | case3 => exact id
  case case2 ih => exact ih
  case case4 i r _ hne _ i' e => exact fun h => by simpa [e] using step i r hne h
  case case5 i r _ hne _ i' e ih => exact fun h => ih (by simpa [e] using step i r hne h)

theorem processResponses_keeps {P : Inst F K → Prop} (step : ∀ i r, r.ver ≠ i.pid → P i → P (dkgProcessResponse i r).1)
    (ord : List Nat) : ∀ i, P i → P (processResponses i ord).1 := by
  intro i
  fun_induction processResponses i ord
  case case1 => exact id
  case case2 i k _ i' e => exact fun h => by simpa [e] using processRespList_keeps step (storedOf i k) i h
  case case3 i k _ i' e ih => exact fun h => ih (by simpa [e] using processRespList_keeps step (storedOf i k) i h)

theorem processResponses_certified (ord : List Nat) : ∀ (i i' : Inst F K), processResponses i ord = (i', true) →
    i'.vers.all (dealCertified i'.keys.length) = true ∧ i'.keys.length ≤ i'.vers.length := by
  intro i
  fun_induction processResponses i ord
  case case1 i =>
    rintro i' h
    simp only [Prod.mk.injEq, Bool.and_eq_true, decide_eq_true_eq] at h
    obtain ⟨rfl, h⟩ := h
    exact h
  case case2 => nofun
  case case3 ih => exact ih

theorem dealCertified_approved {n k : Nat} {v : Verifier F} (hk : k < n) (h : dealCertified n v = true) :
    lookupN k v.resp = some true := by
  unfold dealCertified at h
  split at h
  · simp at h
  · simp only [Bool.and_eq_true, Bool.not_eq_eq_eq_not, Bool.not_true, List.any_eq_false, List.mem_map, List.mem_range,
      forall_exists_index, and_imp, forall_apply_eq_imp_iff₂] at h
    obtain ⟨⟨_, hfalse⟩, hnone⟩ := h
    have h1 := hfalse k hk
    have h2 := hnone k hk
    cases hl : lookupN k v.resp with
    | none => simp [hl] at h2
    | some b =>
      cases b with
      | true => rfl
      | false => simp [hl] at h1

/-- what a handler writes: nothing; an instance for the round; an instance and a key ring for the round -/
def file (round : String) (m : Machine F K) : Option (Inst F K × Option (Keyring F)) → Machine F K
  | none => m
  | some (i, none) => { m with insts := put round i m.insts }
  | some (i, some kr) => { m with insts := put round i m.insts, rings := put round kr m.rings }

theorem lookup_file_insts (round : String) (m : Machine F K) (i : Inst F K) (k : Option (Keyring F)) :
    lookup round (file round m (some (i, k))).insts = some i := by
  cases k <;> exact lookup_put_self ..

theorem lookup_file_rings (round : String) (m : Machine F K) (i : Inst F K) (kr : Keyring F) :
    lookup round (file round m (some (i, some kr))).rings = some kr :=
  lookup_put_self ..

theorem lookup_file_ne (round : String) (m : Machine F K) (w : Option (Inst F K × Option (Keyring F))) {r' : String} (h : r' ≠ round) :
    lookup r' (file round m w).insts = lookup r' m.insts ∧ lookup r' (file round m w).rings = lookup r' m.rings := by
  obtain _ | ⟨i, _ | kr⟩ := w
  · exact ⟨rfl, rfl⟩
  · exact ⟨lookup_put_ne _ _ _ _ h, rfl⟩
  · exact ⟨lookup_put_ne _ _ _ _ h, lookup_put_ne _ _ _ _ h⟩

/-- What the deals, responses and master-key handlers have in common. Without an instance for the round: an error, nothing
written. Otherwise `f` works on the instance, and what it leaves is filed under the round - the instance always (the
handlers mutate it through a pointer, also when they fail), a key ring if `f` makes one. -/
def onRound (m : Machine F K) (round : String) (f : Inst F K → Inst F K × Option (Keyring F) × Res F) : Machine F K × Res F :=
  match lookup round m.insts with
  | none => (m, .err)
  | some i => (file round m (some ((f i).1, (f i).2.1)), (f i).2.2)

theorem onRound_none {m : Machine F K} {round : String} (h : lookup round m.insts = none)
    (f : Inst F K → Inst F K × Option (Keyring F) × Res F) : onRound m round f = (m, .err) := by
  unfold onRound; rw [h]

theorem onRound_some {m : Machine F K} {round : String} {i : Inst F K} (h : lookup round m.insts = some i)
    (f : Inst F K → Inst F K × Option (Keyring F) × Res F) :
    onRound m round f = (file round m (some ((f i).1, (f i).2.1)), (f i).2.2) := by
  unfold onRound; rw [h]

theorem onRound_effect (me : K) (insts : List (String × Inst F K)) (round : String)
    (f : Inst F K → Inst F K × Option (Keyring F) × Res F) :
    ∃ w res, ∀ rings, onRound ⟨me, insts, rings⟩ round f = (file round ⟨me, insts, rings⟩ w, res) := by
  cases hl : lookup round insts with
  | none => exact ⟨none, _, fun _ => onRound_none hl f⟩
  | some i => exact ⟨_, _, fun _ => onRound_some hl f⟩

/-- the deals handler on the round's instance: the instance it leaves, the key ring it makes (none), its answer -/
def dealsStep (entries : List (String × Option (List F))) (i : Inst F K) : Inst F K × Option (Keyring F) × Res F :=
  let s := storeCommits i entries
  if !s.2 then (s.1, none, .err) else
  let g := genDeals s.1
  let others := (List.range g.1.keys.length).filter (· ≠ g.1.pid)
  let nameOf (j : Nat) : String := (g.1.keys[j]?.map (·.1)).getD ""
  (g.1, none, if g.2 then .deals g.1.pid
    (others.map (fun j => (nameOf j, firstIdx (fun e : String × K => decide (e.1 = nameOf j)) g.1.keys, ownDeal g.1 j))) (nameOf g.1.pid)
    else .err)

theorem dealsStep_fst (entries : List (String × Option (List F))) (i : Inst F K) :
    (dealsStep entries i).1 =
      if (storeCommits i entries).2 then (genDeals (storeCommits i entries).1).1 else (storeCommits i entries).1 := by
  cases h : (storeCommits i entries).2 <;> simp [dealsStep, h]

theorem dealsOp_eq (m : Machine F K) (round : String) (entries : List (String × Option (List F))) :
    dealsOp m round entries = onRound m round (dealsStep entries) := by
  fun_cases dealsOp m round entries <;> simp +zetaDelta [onRound, dealsStep, file, *]

/-- the responses handler on the round's instance -/
def responsesStep (entries : List (Int × String × Option (OuterDeal F))) (ord : List String) (i : Inst F K) :
    Inst F K × Option (Keyring F) × Res F :=
  let s := storeDeals i entries
  if !s.2 then (s.1, none, .err) else
  let q := processDeals s.1 ord []
  (q.1, none, match q.2 with | none => .err | some dealers => .responses q.1.pid dealers)

theorem responsesStep_fst (entries : List (Int × String × Option (OuterDeal F))) (ord : List String) (i : Inst F K) :
    (responsesStep entries ord i).1 =
      if (storeDeals i entries).2 then (processDeals (storeDeals i entries).1 ord []).1 else (storeDeals i entries).1 := by
  cases h : (storeDeals i entries).2 <;> simp [responsesStep, h]

theorem responsesStep_refused {entries : List (Int × String × Option (OuterDeal F))} {i : Inst F K}
    (h : (storeDeals i entries).2 = false) (ord : List String) : (responsesStep entries ord i).2.2 = .err := by
  simp [responsesStep, h]

theorem responsesOp_eq (m : Machine F K) (round : String) (entries : List (Int × String × Option (OuterDeal F))) (ord : List String) :
    responsesOp m round entries ord = onRound m round (responsesStep entries ord) := by
  fun_cases responsesOp m round entries ord <;> simp +zetaDelta [onRound, responsesStep, file, *]

theorem responsesOp_ok {m m' : Machine F K} {round : String} {entries : List (Int × String × Option (OuterDeal F))} {ord : List String}
    {pid : Nat} {ds : List Nat} :
    responsesOp m round entries ord = (m', .responses pid ds) ↔
      ∃ i i2, lookup round m.insts = some i ∧ (storeDeals i entries).2 = true ∧
        processDeals (storeDeals i entries).1 ord [] = (i2, some ds) ∧ m' = file round m (some (i2, none)) ∧ pid = i2.pid := by
  constructor
  · fun_cases responsesOp m round entries ord
    case case4 i hi _ _ hs hok i2 _ hq =>
      rintro ⟨⟩
      exact ⟨i, i2, hi, by simpa [hs] using hok, by rw [hs]; exact hq, rfl, rfl⟩
    all_goals nofun
  · rintro ⟨i, i2, hi, hs, hp, rfl, rfl⟩
    rw [responsesOp_eq, onRound_some hi]
    simp [responsesStep, hs, hp]

theorem responsesOp_cases (m : Machine F K) (r : String) (e : List (Int × String × Option (OuterDeal F))) (o : List String) :
    (responsesOp m r e o).2 = Res.err ∨ ∃ pid ds, (responsesOp m r e o).2 = Res.responses pid ds := by
  fun_cases responsesOp m r e o
  case case4 => exact .inr ⟨_, _, rfl⟩
  all_goals exact .inl rfl

/-- the master-key handler on the round's instance; the only one that makes a key ring -/
def masterKeyStep (entries : List (String × Option (List (RespMsg F)))) (ord : List Nat) (i : Inst F K) :
    Inst F K × Option (Keyring F) × Res F :=
  let s := storeResponses i entries
  if !s.2 then (s.1, none, .err) else
  let q := processResponses s.1 ord
  let ring := if q.2 then (distKey q.1).filter (fun kr => !kr.pubPoly.isEmpty) else none
  (q.1, ring, match ring with | none => .err | some kr => .masterKey q.1.pid kr.pubPoly.head? kr.pubPoly)

theorem masterKeyStep_fst (entries : List (String × Option (List (RespMsg F)))) (ord : List Nat) (i : Inst F K) :
    (masterKeyStep entries ord i).1 =
      if (storeResponses i entries).2 then (processResponses (storeResponses i entries).1 ord).1 else (storeResponses i entries).1 := by
  cases h : (storeResponses i entries).2 <;> simp [masterKeyStep, h]

theorem masterKeyOp_eq (m : Machine F K) (round : String) (entries : List (String × Option (List (RespMsg F)))) (ord : List Nat) :
    masterKeyOp m round entries ord = onRound m round (masterKeyStep entries ord) := by
  fun_cases masterKeyOp m round entries ord <;> simp +zetaDelta [onRound, masterKeyStep, file, Option.filter_some, *]

theorem masterKeyOp_ok {m m' : Machine F K} {round : String} {entries : List (String × Option (List (RespMsg F)))} {ord : List Nat}
    {pid : Nat} {key : Option F} {poly : List F} (h : masterKeyOp m round entries ord = (m', .masterKey pid key poly)) :
    ∃ i i2 kr, lookup round m.insts = some i ∧ processResponses (storeResponses i entries).1 ord = (i2, true) ∧
      distKey i2 = some kr ∧ m' = file round m (some (i2, some kr)) ∧ pid = i2.pid ∧ key = kr.pubPoly.head? ∧ poly = kr.pubPoly := by
  revert h
  fun_cases masterKeyOp m round entries ord
  case case6 i hi _ _ hs _ i2 hq kr hk _ =>
    rintro ⟨⟩
    exact ⟨i, i2, kr, hi, by rw [hs]; exact hq, hk, rfl, rfl, rfl, rfl⟩
  all_goals nofun

theorem firstIdx_eq {α : Type} (p : α → Bool) (l : List α) : firstIdx p l = l.findIdx? p := by
  fun_induction firstIdx p l <;> simp_all [List.findIdx?_cons]

theorem firstIdx_lt {α : Type} (p : α → Bool) (l : List α) (k : Nat) (h : firstIdx p l = some k) : k < l.length :=
  (List.findIdx?_eq_some_iff_getElem.mp (firstIdx_eq p l ▸ h)).1

theorem commitsFinish_filed (m : Machine F K) (round : String) (poly : List F) (keys : List (String × K)) (idx : Nat) (thr : Int) (t : Nat) :
    (commitsFinish m round poly keys idx thr t = (m, .err) ∨ commitsFinish m round poly keys idx thr t = (m, .badOracle)) ∨
    ∃ inst : Inst F K, commitsFinish m round poly keys idx thr t = ({ m with insts := put round inst m.insts }, .commits idx poly) ∧
      inst.pid = idx ∧ inst.keys = keys ∧ inst.vers = List.replicate keys.length {} := by
  fun_cases commitsFinish m round poly keys idx thr t
  case case5 => exact .inr ⟨_, rfl, rfl, rfl, rfl⟩
  case case4 => exact .inl (.inr rfl)
  all_goals exact .inl (.inl rfl)

theorem commitsOp_filed (m : Machine F K) (round : String) (entries : List (KeyEntry K)) (poly : List F) :
    (commitsOp m round entries poly = (m, .err) ∨ commitsOp m round entries poly = (m, .badOracle)) ∨
    ∃ inst : Inst F K, commitsOp m round entries poly = ({ m with insts := put round inst m.insts }, .commits inst.pid poly) ∧
      lookup round m.insts = none ∧ inst.pid < inst.keys.length ∧ inst.vers = List.replicate inst.keys.length {} := by
  fun_cases commitsOp m round entries poly
  case case6 hn _ _ _ _ _ idx hidx =>
    obtain h | ⟨inst, h, rfl, hk, hv⟩ := commitsFinish_filed m round poly _ idx _ _
    · exact .inl h
    · exact .inr ⟨inst, h, by simpa using hn, hk ▸ firstIdx_lt _ _ _ hidx, hk ▸ hv⟩
  all_goals exact .inl (.inl rfl)

theorem commitsFinish_rings (m : Machine F K) (rs : List (String × Keyring F)) (round : String) (poly : List F) (keys : List (String × K))
    (idx : Nat) (thr : Int) (t : Nat) :
    commitsFinish { m with rings := rs } round poly keys idx thr t =
      ({ (commitsFinish m round poly keys idx thr t).1 with rings := rs }, (commitsFinish m round poly keys idx thr t).2) := by
  fun_cases commitsFinish m round poly keys idx thr t <;> simp +zetaDelta [commitsFinish, *]

theorem commitsOp_rings (m : Machine F K) (rs : List (String × Keyring F)) (round : String) (entries : List (KeyEntry K)) (poly : List F) :
    commitsOp { m with rings := rs } round entries poly =
      ({ (commitsOp m round entries poly).1 with rings := rs }, (commitsOp m round entries poly).2) := by
  fun_cases commitsOp m round entries poly <;> simp +zetaDelta [commitsOp, commitsFinish_rings, *]

theorem signOp_fst (m : Machine F K) (round : String) (payloadOk : Bool) (msgs : Option Nat) : (signOp m round payloadOk msgs).1 = m := by
  fun_cases signOp m round payloadOk msgs <;> rfl

end Dc4bcVerif.Lemmas.AirDkgSteps
