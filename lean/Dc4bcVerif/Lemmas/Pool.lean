/-
  The pool (`poolState`, fsm_pool.MachineByState) as a function of the state, and what a persisted step (`persistStep`,
  Model/Run.lean) does: nothing, or it stores the result of the accepted `Do` under the machine in charge of the state
  reached. The run invariants of the properties rest on `persistStep_inv`.
-/
import Dc4bcVerif.Model.Run
import Dc4bcVerif.Lemmas.Machines

namespace Dc4bcVerif.Model
open Dc4bcVerif.Gen

/-- the machine in charge of a state -/
def owner : St → MachineId
  | .s___idle | .s_state_sig_proposal_await_participants_confirmations
  | .s_state_sig_proposal_canceled_by_participant | .s_state_sig_proposal_canceled_by_timeout => .sig
  | .s_state_dkg_master_key_collected | .s_stage_signing_idle | .s_state_signing_await_partial_signs
  | .s_state_signing_partial_signs_await_cancelled_by_timeout | .s_state_signing_partial_signs_await_cancelled_by_error
  | .s_state_signing_partial_signs_collected => .sign
  | _ => .dkg

/-- the pool evaluated once for all state names: it knows a machine for every one of them, `owner` -/
theorem pool_table : ∀ s ∈ St.all, poolState s = some (owner s) := by
  decide

theorem poolState_eq (s : St) : poolState s = some (owner s) := pool_table s (St.mem_all s)

theorem owner_of_pool {s : St} {mid : MachineId} (h : poolState s = some mid) : mid = owner s :=
  Option.some.inj (h.symm.trans (poolState_eq s))

theorem doEv_snd (i : Instance) (e : Ev) (a : Arg) :
    (i.doEv e a).2 = doEvent (machineOf i.machine) runAction i.state i.payload e a := rfl

theorem doEv_route (i : Instance) {e : Ev} (h : (lookup (machineOf i.machine) i.state e).all (·.isInternal) = true) (a : Arg) :
    (i.doEv e a).2.res = .err := by
  rw [doEv_snd, doEvent_route h]

/-- an event that has a row in one machine is a route error for a round in charge of another -/
theorem doEv_other_machine {m1 : MachineId} {s1 : St} {e : Ev} (h : (lookup (machineOf m1) s1 e).isSome = true)
    (i : Instance) (hne : m1 ≠ i.machine) (a : Arg) : (i.doEv e a).2.res = .err :=
  doEv_route i (by rw [lookup_other_machine h hne]; rfl) a

theorem doEv_fst {i : Instance} {e : Ev} {a : Arg} (hok : (i.doEv e a).2.res = .ok) :
    (i.doEv e a).1 = { machine := i.machine, state := (i.doEv e a).2.state, dumpState := some (i.doEv e a).2.state,
                       payload := (i.doEv e a).2.payload } := by
  obtain ⟨d, hd⟩ := doEvent_ok_state (machineOf i.machine) runAction i.state i.payload e a hok
  unfold Instance.doEv
  simp only [hd]

theorem restore_eq (s : St) (p : Payload) : Instance.restore (some s) p = some ⟨owner s, s, some s, p⟩ := by
  rw [Instance.restore, poolState_eq]; rfl

theorem persistStep_cases (i : Instance) (ea : Ev × Arg) :
    let r := i.doEv ea.1 ea.2
    (r.2.res ≠ .ok ∧ persistStep i ea = i) ∨
    (r.2.res = .ok ∧ persistStep i ea = ⟨owner r.1.state, r.1.state, some r.1.state, r.1.payload⟩) := by
  by_cases hok : (i.doEv ea.1 ea.2).2.res = .ok
  · refine .inr ⟨hok, ?_⟩
    simp only [persistStep, hok, beq_self_eq_true, ↓reduceIte, doEv_fst hok, restore_eq, Option.getD_some]
  · refine .inl ⟨hok, ?_⟩
    have : ((i.doEv ea.1 ea.2).2.res == .ok) = false := by simpa using hok
    simp only [persistStep, this, Bool.false_eq_true, ↓reduceIte]

theorem restore_of_ok (j : Instance) (e : Ev) (a : Arg) (hok : (j.doEv e a).2.res = .ok) :
    Instance.restore (j.doEv e a).1.dumpState (j.doEv e a).1.payload = some (persistStep j (e, a)) := by
  rcases persistStep_cases j (e, a) with ⟨hno, _⟩ | ⟨_, hp⟩
  · exact absurd hok hno
  · rw [hp, doEv_fst hok, restore_eq]

theorem persistStep_hops (i : Instance) (ea : Ev × Arg) :
    Hops (machineOf i.machine) 3 i.state (persistStep i ea).state := by
  rcases persistStep_cases i ea with ⟨_, h⟩ | ⟨_, h⟩ <;> rw [h]
  · exact .refl _ _
  · exact doEvent_hops (machineOf i.machine) runAction i.state i.payload ea.1 ea.2

/-- the skeleton of the run invariants: "the machine is the one in charge of the state, and `Inv state payload`" is kept
by every step — persisted or not — if `Inv` is kept by the accepted `Do`s of the machine in charge -/
theorem persistStep_inv {Inv : St → Payload → Prop}
    (hdo : ∀ s p e a, Inv s p → (doEvent (machineOf (owner s)) runAction s p e a).res = .ok →
      Inv (doEvent (machineOf (owner s)) runAction s p e a).state (doEvent (machineOf (owner s)) runAction s p e a).payload)
    (i : Instance) (ea : Ev × Arg) (h : poolState i.state = some i.machine ∧ Inv i.state i.payload) :
    poolState (persistStep i ea).state = some (persistStep i ea).machine ∧
      Inv (persistStep i ea).state (persistStep i ea).payload := by
  rcases persistStep_cases i ea with ⟨_, hp⟩ | ⟨hok, hp⟩ <;> rw [hp]
  · exact h
  · obtain ⟨mach, s, ds, p⟩ := i
    obtain rfl := owner_of_pool (s := s) h.1
    exact ⟨poolState_eq _, hdo s p ea.1 ea.2 h.2 hok⟩

end Dc4bcVerif.Model
