/-
  The handler as a whole. `processMessage`, for a message of round `R`, reads the node state only through the node's view
  of `R` (dump of `R`, signature store of `R`, verification switch: `ViewEq`) and writes, if it succeeds and only then, at
  most the signature store and the dump of `R` (`Writes`). `processMessage_congr` opens the handler once, for two runs side
  by side and with the reasons of the first; the case analysis of one run (`processMessage_cases`) is its diagonal, and
  `processMessage_step` — same view, same outcome and same writes — is what non-interference between rounds (Props/C08),
  "a rejected message changes nothing" (Props/C18) and the replay results (Props/C20Node) are read off.
-/
import Dc4bcVerif.Lemmas.NodeSteps

namespace Dc4bcVerif.Lemmas.NodeLocal
open Dc4bcVerif.Gen Dc4bcVerif.Model Dc4bcVerif.Model.Node

def ViewEq (R : String) (a b : NodeSt) : Prop :=
  lookupS a.rounds R = lookupS b.rounds R ∧ lookupS a.sigs R = lookupS b.sigs R ∧ a.skipVerify = b.skipVerify

namespace ViewEq
theorem refl (R : String) (a : NodeSt) : ViewEq R a a := ⟨rfl, rfl, rfl⟩
theorem symm {R : String} {a b : NodeSt} (h : ViewEq R a b) : ViewEq R b a := ⟨h.1.symm, h.2.1.symm, h.2.2.symm⟩
theorem trans {R : String} {a b c : NodeSt} (h1 : ViewEq R a b) (h2 : ViewEq R b c) : ViewEq R a c :=
  ⟨h1.1.trans h2.1, h1.2.1.trans h2.2.1, h1.2.2.trans h2.2.2⟩
end ViewEq

/-- what handling a message of round `R` writes: a new signature store of `R`, a new dump of `R`, or neither -/
structure Writes where
  sigs : Option (List (String × List (String × List RSig))) := none
  dump : Option DumpV := none

namespace Writes

def on (w : Writes) (R : String) (st : NodeSt) : NodeSt :=
  { st with
    sigs := match w.sigs with | some s => assocSet st.sigs R s | none => st.sigs
    rounds := match w.dump with | some d => assocSet st.rounds R d | none => st.rounds }

theorem on_rounds_ne (w : Writes) (R : String) (st : NodeSt) (r : String) (h : r ≠ R) :
    lookupS (w.on R st).rounds r = lookupS st.rounds r := by
  unfold on
  cases w.dump with
  | none => rfl
  | some d => exact lookupS_assocSet_ne _ _ _ _ h

theorem on_sigs_ne (w : Writes) (R : String) (st : NodeSt) (r : String) (h : r ≠ R) :
    lookupS (w.on R st).sigs r = lookupS st.sigs r := by
  unfold on
  cases w.sigs with
  | none => rfl
  | some d => exact lookupS_assocSet_ne _ _ _ _ h

theorem on_view (w : Writes) {R : String} {a b : NodeSt} (h : ViewEq R a b) : ViewEq R (w.on R a) (w.on R b) := by
  unfold on
  refine ⟨?_, ?_, h.2.2⟩
  · cases w.dump with
    | none => exact h.1
    | some d => exact (lookupS_assocSet_eq _ _ _).trans (lookupS_assocSet_eq _ _ _).symm
  · cases w.sigs with
    | none => exact h.2.1
    | some d => exact (lookupS_assocSet_eq _ _ _).trans (lookupS_assocSet_eq _ _ _).symm

end Writes

/-- `x` and `y` are what one step makes of `a` and `b`: the same outcome, operation and posted messages, and the same
writes to round `R`, none of them unless the step succeeds -/
def Step (R : String) (a b : NodeSt) (x y : PMOut) : Prop :=
  ∃ w : Writes, x.st = w.on R a ∧ y = { x with st := w.on R b } ∧ (x.out ≠ .ok → w = {})

namespace Step

theorem noWrite (R : String) (a b : NodeSt) (o : Outcome) (op : Option NOp) (sent : List Sent) :
    Step R a b ⟨a, o, op, sent⟩ ⟨b, o, op, sent⟩ := ⟨{}, rfl, rfl, fun _ => rfl⟩

theorem wrote (w : Writes) (R : String) (a b : NodeSt) (op : Option NOp) (sent : List Sent) :
    Step R a b ⟨w.on R a, .ok, op, sent⟩ ⟨w.on R b, .ok, op, sent⟩ := ⟨w, rfl, rfl, fun h => absurd rfl h⟩

theorem same {R : String} {a b : NodeSt} {x y : PMOut} (hs : Step R a b x y) (h : ViewEq R a b) :
    ViewEq R x.st y.st ∧ x.out = y.out ∧ x.op = y.op ∧ x.sent = y.sent := by
  obtain ⟨w, hx, rfl, _⟩ := hs
  exact ⟨hx ▸ w.on_view h, rfl, rfl, rfl⟩

theorem elsewhere {R : String} {a b : NodeSt} {x y : PMOut} (hs : Step R a b x y) :
    (∀ r, r ≠ R → lookupS x.st.rounds r = lookupS a.rounds r) ∧ (∀ r, r ≠ R → lookupS x.st.sigs r = lookupS a.sigs r) ∧
      x.st.skipVerify = a.skipVerify := by
  obtain ⟨w, hx, _, _⟩ := hs
  rw [hx]
  exact ⟨w.on_rounds_ne R a, w.on_sigs_ne R a, rfl⟩

theorem noop {R : String} {a b : NodeSt} {x y : PMOut} (hs : Step R a b x y) (hne : x.out ≠ .ok) : x.st = a := by
  obtain ⟨w, hx, _, hw⟩ := hs
  rw [hx, hw hne]
  rfl

end Step

theorem saveSignatures_eq (st : NodeSt) (R : String) (l : List RSig) (hall : ∀ x ∈ l, x.round = R) :
    saveSignatures st l =
      if l = [] then none else some (Writes.on { sigs := some (l.foldl addSig ((lookupS st.sigs R).getD [])) } R st) := by
  cases l with
  | nil => rfl
  | cons first rest =>
    rw [if_neg (List.cons_ne_nil _ _), ← hall first (List.mem_cons_self ..)]
    rfl

/-- On two states with the same view of `R`, saving signatures that all belong to `R` fails on both (`o = none`) or succeeds
on both with the same write to the signature store of `R` (`o = some s`). `s = none`, success without a write, does not
occur here; it is the shape this lemma shares with `placeholders_step`, where a message that is no proposal saves nothing. -/
theorem saveSignatures_step {R : String} {a b : NodeSt} (h : ViewEq R a b) (l : List RSig) (hall : ∀ x ∈ l, x.round = R) :
    ∃ o : Option (Option _), saveSignatures a l = o.map (fun s => Writes.on { sigs := s } R a) ∧
      saveSignatures b l = o.map (fun s => Writes.on { sigs := s } R b) := by
  rw [saveSignatures_eq a R l hall, saveSignatures_eq b R l hall, h.2.1]
  split
  · exact ⟨none, rfl, rfl⟩
  · exact ⟨some (some _), rfl, rfl⟩

theorem placeholders_step {a b : NodeSt} (m : NMsg) (h : ViewEq m.round a b) (payloadOf : Tasks.Msg → Bytes) :
    ∃ o : Option (Option _), placeholders a m payloadOf = o.map (fun s => Writes.on { sigs := s } m.round a) ∧
      placeholders b m payloadOf = o.map (fun s => Writes.on { sigs := s } m.round b) := by
  unfold placeholders
  split
  · cases m.proposal with
    | none => exact ⟨none, rfl, rfl⟩
    | some bt =>
      dsimp only
      cases Tasks.tasksToMessages bt.2 with
      | error e => exact ⟨none, rfl, rfl⟩
      | ok msgs =>
        refine saveSignatures_step h _ fun x hx => ?_
        obtain ⟨y, _, hy⟩ := List.mem_map.mp hx
        rw [← hy]
  · exact ⟨some none, rfl, rfl⟩

theorem verifyMessage_congr {a b : NodeSt} (h : a.skipVerify = b.skipVerify) (inst : Instance) (m : NMsg) :
    verifyMessage a inst m = verifyMessage b inst m := by
  unfold verifyMessage; rw [h]

theorem bound_congr {a b : NodeSt} (h : a.skipVerify = b.skipVerify) (inst : Instance) (m : NMsg) (arg : Arg) :
    bound a inst m arg = bound b inst m arg := by
  unfold bound; rw [h]

/-- the first three steps of `processMessage` went through: `inst` is the round the message is applied to, and the message
is the opening proposal (never verified) or its signature was accepted -/
def Admitted (st : NodeSt) (m : NMsg) (inst : Instance) : Prop :=
  getInstance st m.round = some (st, inst) ∧
    ((m.event == "event_sig_proposal_init") = true ∨ verifyMessage st inst m = .ok)

namespace Admitted
theorem loaded {st : NodeSt} {m : NMsg} {inst : Instance} (h : Admitted st m inst) : getInstance st m.round = some (st, inst) := h.1
end Admitted

theorem afterDo_cases {P : PMOut → Prop} (st2 : NodeSt) (i3 : Instance) (o3 : Out) (m : NMsg) (now : Time)
    (payloadOf : Tasks.Msg → Bytes)
    (rejected : ∀ sent, P { st := st2, out := .reject, sent := sent })
    (done : ∀ i4 rs4 rd4 i5 rs5 rd5 sent i6 st3, firstHandOver i3 o3 now = some (i4, rs4, rd4) →
      secondHandOver i4 rs4 rd4 now = some (i5, rs5, rd5) →
      reconstructStep (rs5 == some .s_state_signing_partial_signs_collected) m = some sent →
      restartAfterCollect (rs5 == some .s_state_signing_partial_signs_collected) i5 now = some i6 →
      placeholders st2 m payloadOf = some st3 →
      P { st := saveFSM st3 m.round (i6.dumpState, i6.payload), out := .ok, op := opOf rs5 rd5 m, sent := sent }) :
    P (afterDo st2 i3 o3 m now payloadOf) := by
  fun_cases afterDo st2 i3 o3 m now payloadOf
  case case3 i4 rs4 rd4 h1 i5 rs5 rd5 h2 =>
    fun_cases finish st2 i5 rs5 rd5 m now payloadOf
    case case4 _ _ sent hrc i6 h3 st3 hp =>
      have := done i4 rs4 rd4 i5 rs5 rd5 sent i6 st3 h1 h2 hrc h3 hp
      unfold opOf at this
      exact this
    all_goals exact rejected _
  all_goals exact rejected []

section walk
variable {a b : NodeSt} (m : NMsg) (h : ViewEq m.round a b) (now : Time) (payloadOf : Tasks.Msg → Bytes)
include h

theorem finish_step (i5 : Instance) (rs5 : Option St) (rd5 : Option RespData) :
    Step m.round a b (finish a i5 rs5 rd5 m now payloadOf) (finish b i5 rs5 rd5 m now payloadOf) := by
  unfold finish
  dsimp only
  cases reconstructStep (rs5 == some .s_state_signing_partial_signs_collected) m with
  | none => exact Step.noWrite ..
  | some sent =>
    dsimp only
    cases restartAfterCollect (rs5 == some .s_state_signing_partial_signs_collected) i5 now with
    | none => exact Step.noWrite ..
    | some i6 =>
      obtain ⟨o, ha, hb⟩ := placeholders_step m h payloadOf
      rw [ha, hb]
      cases o with
      | none => exact Step.noWrite ..
      | some s => exact Step.wrote ⟨s, some _⟩ ..

theorem afterDo_step (i3 : Instance) (o3 : Out) :
    Step m.round a b (afterDo a i3 o3 m now payloadOf) (afterDo b i3 o3 m now payloadOf) := by
  unfold afterDo
  cases firstHandOver i3 o3 now with
  | none => exact Step.noWrite ..
  | some x =>
    dsimp only
    cases secondHandOver x.1 x.2.1 x.2.2 now with
    | none => exact Step.noWrite ..
    | some y => exact finish_step m h ..

/-- **`processMessage` opened once, for two runs side by side** (explicit arguments: `m h payloadOf n1 n2`, then the premises).
`a`, `b` are two node states with the same view of `m.round` (`h`); `n1`, `n2` two clock readings that the preliminary steps
do not tell apart (`hpre`). To relate the two results by `Rel` it is enough to relate them in each way the handler can end.
The reasons handed over (`Admitted`, the tests on the event, `preSteps … = …`) are those of the FIRST run.
* `rejected`: both runs reject and write nothing.
* `saved`: `signature_reconstructed`; both write the same signature store `s` of the round.
* `quiet`: accepted without effect, a failure report or a message the preliminary steps swallow.
* `applied`: the event reaches the round `inst2` that the preliminary steps hand on, past the two guards of `dispatch` (a
  request type is registered for the event; the sender is bound to the participant the request names). The callback panics
  in both runs, or `afterDo` runs on the same `i3`, `o3` in both.

With `b := a` and `Rel := fun r _ => P r` this is `processMessage_cases`; with `Rel := Step …`, `processMessage_step`; with
`n1 ≠ n2`, `C13Clock.node_accept_indep`. -/
theorem processMessage_congr {Rel : PMOut → PMOut → Prop} (n1 n2 : Time)
    (hpre : ∀ inst st, preSteps st inst m n1 = preSteps st inst m n2)
    (rejected : Rel (rejectWith a) (rejectWith b))
    (saved : ∀ inst l s, Admitted a m inst → (m.event == "signature_reconstructed") = true → m.sigs = some l →
      saveSignatures a (l.map fun x => { x with username := m.sender, round := m.round }) =
        some (Writes.on { sigs := s } m.round a) →
      Rel { st := Writes.on { sigs := s } m.round a, out := .ok } { st := Writes.on { sigs := s } m.round b, out := .ok })
    (quiet : ∀ inst, Admitted a m inst → (m.event == "signature_reconstructed") = false →
      ((m.event == "signature_reconstruction_failed") = true ∨ preSteps a inst m n1 = .swallow a) →
      Rel { st := a, out := .ok } { st := b, out := .ok })
    (applied : ∀ inst inst2 ev, Admitted a m inst →
      (m.event == "signature_reconstructed") = false → (m.event == "signature_reconstruction_failed") = false →
      preSteps a inst m n1 = .cont a inst2 → Ev.all.find? (fun e => e.name == m.event) = some ev →
      Dc4bcVerif.Gen.NodeGlue.requestTypeOfEvent.any (fun p => p.1 == m.event) = true →
      bound a inst2 m (m.arg.getD .other) = true →
      (doPanics inst2 ev (m.arg.getD .other) = true → Rel { st := a, out := .panic } { st := b, out := .panic }) ∧
      ∀ i3 o3, doOrReject inst2 ev (m.arg.getD .other) = some (i3, o3) →
        Rel (afterDo a i3 o3 m n1 payloadOf) (afterDo b i3 o3 m n2 payloadOf)) :
    Rel (processMessage a m n1 payloadOf) (processMessage b m n2 payloadOf) := by
  unfold processMessage
  rw [getInstance_eq, getInstance_eq, ← h.1]
  cases hl : loaded (lookupS a.rounds m.round) m.round with
  | none => exact rejected
  | some inst =>
    have hg : getInstance a m.round = some (a, inst) := by rw [getInstance_eq, hl]; rfl
    dsimp only [Option.map_some]
    rw [← verifyMessage_congr h.2.2]
    generalize hv : (if m.event == "event_sig_proposal_init" then Outcome.ok else verifyMessage a inst m) = v
    cases v with
    | panic =>
      split at hv
      · cases hv
      · exact absurd hv (verifyMessage_ne_panic _ _ _)
    | reject => exact rejected
    | ok =>
      have hadm : Admitted a m inst := ⟨hg, by
        split at hv
        · exact .inl ‹_›
        · exact .inr hv⟩
      dsimp only
      split
      · -- `signature_reconstructed`: the entries are saved under the message's round
        rename_i h1
        cases hs : m.sigs with
        | none => exact rejected
        | some l =>
          dsimp only
          obtain ⟨o, ha, hb⟩ := saveSignatures_step h (l.map fun x => { x with username := m.sender, round := m.round })
            fun x hx => by
              obtain ⟨y, _, hy⟩ := List.mem_map.mp hx
              rw [← hy]
          rw [ha, hb]
          cases o with
          | none => exact rejected
          | some s => exact saved inst l s hadm h1 hs ha
      · rename_i h1
        have h1 : (m.event == "signature_reconstructed") = false := by simpa using h1
        split
        · -- `signature_reconstruction_failed`: accepted if it decodes, nothing happens
          rename_i h2
          split
          · exact quiet inst hadm h1 (.inl h2)
          · exact rejected
        · rename_i h2
          have h2 : (m.event == "signature_reconstruction_failed") = false := by simpa using h2
          -- any other event: `handleEvent` (preliminary steps), `dispatch` (its two guards), `applyEvent`
          unfold handleEvent
          rw [← hpre]
          rcases preSteps_thread inst m n1 with hp | hp | ⟨_, inst2, _, _, hp⟩ <;> rw [hp, hp]
          · exact quiet inst hadm h1 (.inr (hp a))
          · exact rejected
          · unfold dispatch
            cases hf : Ev.all.find? (fun e => e.name == m.event) with
            | none => exact rejected
            | some ev =>
              dsimp only
              split
              · exact rejected
              · rw [← bound_congr h.2.2]
                split
                · exact rejected
                · rename_i hrt hb
                  obtain ⟨hpanic, hdo⟩ := applied inst inst2 ev hadm h1 h2 (hp a) hf
                    ((Bool.not_eq_false' _).mp (eq_false_of_ne_true hrt)) ((Bool.not_eq_false' _).mp (eq_false_of_ne_true hb))
                  unfold applyEvent
                  split
                  · exact hpanic ‹_›
                  · cases hd : doOrReject inst2 ev (m.arg.getD .other) with
                    | none => exact rejected
                    | some r => exact hdo r.1 r.2 hd

/-- **the handler is local to the message's round.** On two node states with the same view of the round, `processMessage`
ends with the same outcome, operation and posted messages, and writes the same things: nothing unless it succeeds, and
then at most the signature store and the dump of that round. -/
theorem processMessage_step :
    Step m.round a b (processMessage a m now payloadOf) (processMessage b m now payloadOf) :=
  processMessage_congr m h payloadOf now now (hpre := fun _ _ => rfl) (rejected := Step.noWrite ..)
    (saved := fun _ _ s _ _ _ _ => Step.wrote ⟨s, none⟩ ..) (quiet := fun _ _ _ _ => Step.noWrite ..)
    (applied := by intros; exact ⟨fun _ => Step.noWrite .., fun i3 o3 _ => afterDo_step m h now payloadOf i3 o3⟩)

theorem viewEq_processMessage :
    ViewEq m.round (processMessage a m now payloadOf).st (processMessage b m now payloadOf).st ∧
      (processMessage a m now payloadOf).out = (processMessage b m now payloadOf).out ∧
      (processMessage a m now payloadOf).op = (processMessage b m now payloadOf).op ∧
      (processMessage a m now payloadOf).sent = (processMessage b m now payloadOf).sent :=
  (processMessage_step m h now payloadOf).same h

end walk

theorem processMessage_cases {P : PMOut → Prop} (st : NodeSt) (m : NMsg) (now : Time) (payloadOf : Tasks.Msg → Bytes)
    (rejected : P (rejectWith st))
    (saved : ∀ inst l st2, Admitted st m inst → (m.event == "signature_reconstructed") = true → m.sigs = some l →
      saveSignatures st (l.map (fun x => { x with username := m.sender, round := m.round })) = some st2 →
      P { st := st2, out := .ok })
    (quiet : ∀ inst, Admitted st m inst → (m.event == "signature_reconstructed") = false →
      ((m.event == "signature_reconstruction_failed") = true ∨ preSteps st inst m now = .swallow st) →
      P { st := st, out := .ok })
    (applied : ∀ inst inst2 ev, Admitted st m inst →
      (m.event == "signature_reconstructed") = false → (m.event == "signature_reconstruction_failed") = false →
      preSteps st inst m now = .cont st inst2 → Ev.all.find? (fun e => e.name == m.event) = some ev →
      Dc4bcVerif.Gen.NodeGlue.requestTypeOfEvent.any (fun p => p.1 == m.event) = true →
      bound st inst2 m (m.arg.getD .other) = true →
      (doPanics inst2 ev (m.arg.getD .other) = true → P { st := st, out := .panic }) ∧
      ∀ i3 o3, doOrReject inst2 ev (m.arg.getD .other) = some (i3, o3) → P (afterDo st i3 o3 m now payloadOf)) :
    P (processMessage st m now payloadOf) :=
  processMessage_congr (Rel := fun r _ => P r) m (.refl _ st) payloadOf now now (hpre := fun _ _ => rfl) (rejected := rejected)
    (saved := fun inst l _ => saved inst l _) (quiet := quiet) (applied := applied)

theorem afterDo_ne_panic (st2 : NodeSt) (i3 : Instance) (o3 : Out) (m : NMsg) (now : Time) (payloadOf : Tasks.Msg → Bytes) :
    (afterDo st2 i3 o3 m now payloadOf).out ≠ .panic :=
  afterDo_cases (P := fun r => r.out ≠ .panic) st2 i3 o3 m now payloadOf (rejected := fun _ => nofun) (done := by intros; nofun)

theorem processMessageTop_viewEq_processMessage (R : String) (st : NodeSt) (m : NMsg) (now : Time) (payloadOf : Tasks.Msg → Bytes) :
    ViewEq R (processMessageTop st m now payloadOf).st (processMessage st m now payloadOf).st := by
  rw [processMessageTop_eq]
  exact ViewEq.refl _ _

theorem viewEq_processMessageTop {a b : NodeSt} (m : NMsg) (h : ViewEq m.round a b) (now : Time) (payloadOf : Tasks.Msg → Bytes) :
    ViewEq m.round (processMessageTop a m now payloadOf).st (processMessageTop b m now payloadOf).st :=
  (processMessageTop_viewEq_processMessage _ a m now payloadOf).trans
    ((viewEq_processMessage m h now payloadOf).1.trans (processMessageTop_viewEq_processMessage _ b m now payloadOf).symm)

end Dc4bcVerif.Lemmas.NodeLocal
