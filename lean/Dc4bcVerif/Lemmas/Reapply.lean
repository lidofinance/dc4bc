/-
  Where one accepted `Do` can end (`reach1`), and the engine lemmas for re-application: an event that `Do` accepted is
  refused when it is applied a second time to the result — either by the table (no state that one `Do` can reach from a
  source of the event has a public row for it: `doEvent_reapply_table`) or by the callback (a predicate `Q` on the payload
  that the first application establishes, the after-auto callback preserves, and under which the callback refuses:
  `doEvent_reapply`). Generic in the callbacks; `Props/C13Fsm.lean` instantiates it for the three machines.
-/
import Dc4bcVerif.Lemmas.FsmEngine

namespace Dc4bcVerif.Model
open Dc4bcVerif.Gen
variable {P R A : Type}

def succs (m : MachineDesc) (s : St) : List St := (m.events.filter (·.src.contains s)).map (·.dst)

theorem edge_mem_succs {m : MachineDesc} {s s' : St} (h : Edge m s s') : s' ∈ succs m s := by
  obtain ⟨d, hm, hs, rfl⟩ := h.row
  exact List.mem_map.mpr ⟨d, List.mem_filter.mpr ⟨hm, by simpa using hs⟩, rfl⟩

theorem mem_succs_row {m : MachineDesc} {s s' : St} (h : s' ∈ succs m s) : ∃ d ∈ m.events, s ∈ d.src ∧ d.dst = s' := by
  obtain ⟨d, hd, rfl⟩ := List.mem_map.mp h
  rw [List.mem_filter] at hd
  exact ⟨d, hd.1, by simpa using hd.2, rfl⟩

/-- the states one accepted `Do` can end in, for a machine without before-auto events: the destination `s1` of a row that
leaves the state, or, when `s1` has an after-auto event, the destination of a row that leaves `s1` -/
def reach1 (m : MachineDesc) (cur : St) : List St :=
  (succs m cur).flatMap (fun s1 => s1 :: if (autoLookup m s1 2).isSome then succs m s1 else [])

theorem mem_reach1_dst {m : MachineDesc} {s0 s : St} (h : s ∈ reach1 m s0) : ∃ d ∈ m.events, d.dst = s := by
  obtain ⟨s1, h1, h⟩ := List.mem_flatMap.mp h
  rcases List.mem_cons.mp h with rfl | h
  · obtain ⟨d, hm, _, hd⟩ := mem_succs_row h1
    exact ⟨d, hm, hd⟩
  · split at h
    · obtain ⟨d, hm, _, hd⟩ := mem_succs_row h
      exact ⟨d, hm, hd⟩
    · cases h

theorem doEvent_ok_reach (m : MachineDesc) (act : ActionId → Ev → P → A → ActOut P R) (cur : St) (p : P) (e : Ev) (a : A)
    (hb : autoLookup m cur 1 = none) (hok : (doEvent m act cur p e a).res = .ok) :
    (lookup m cur e).isSome = true ∧ (doEvent m act cur p e a).state ∈ reach1 m cur := by
  refine doEvent_cases (motive := fun out => out.res = .ok → (lookup m cur e).isSome = true ∧ out.state ∈ reach1 m cur)
    m act cur p e a (route := nofun) (beforeFailed := fun _ _ _ _ hr h => absurd h hr) (refused := fun _ _ _ hr h => absurd h hr)
    (noRow := fun _ _ _ _ _ => nofun) (moved := fun tr s1 hl _ => ?_) hok
  simp only [processAuto_none hb]
  intro _ hs1 _
  refine ⟨by rw [hl]; rfl, List.mem_flatMap.mpr ⟨s1, edge_mem_succs (setState_edge hs1), ?_⟩⟩
  exact processAuto_cases (motive := fun b => b.state ∈ s1 :: if (autoLookup m s1 2).isSome then succs m s1 else [])
    m act s1 _ 2 a (absent := fun _ => List.mem_cons_self) (refused := fun _ _ _ _ _ => List.mem_cons_self)
    (noRow := fun _ _ _ _ => List.mem_cons_self)
    (moved := fun _ _ hau _ hs2 => List.mem_cons_of_mem _ (by rw [hau]; exact edge_mem_succs (setState_edge hs2)))

def refusesAt (m : MachineDesc) (e : Ev) (s : St) : Bool := (lookup m s e).all (·.isInternal)

/-- the table refuses `e` wherever one `Do` that starts in one of its sources can end -/
def deadEvent (m : MachineDesc) (e : Ev) : Bool :=
  m.events.all (fun d => d.name != e || d.src.all (fun c => (reach1 m c).all (refusesAt m e)))

theorem doEvent_reapply_table (m : MachineDesc) (act : ActionId → Ev → P → A → ActOut P R) (e : Ev) (a : A)
    (hd : deadEvent m e = true) (cur : St) (p : P) (hb : autoLookup m cur 1 = none)
    (hok : (doEvent m act cur p e a).res = .ok) :
    (doEvent m act (doEvent m act cur p e a).state (doEvent m act cur p e a).payload e a).res = .err := by
  obtain ⟨hl, hr⟩ := doEvent_ok_reach m act cur p e a hb hok
  -- `cur` is a source of the row named `e`
  obtain ⟨tr, hl⟩ := Option.isSome_iff_exists.mp hl
  obtain ⟨d, hm, hn, hsrc, _⟩ := lookup_row hl
  have := List.all_eq_true.mp hd d hm
  simp only [hn, bne_self_eq_false, Bool.false_or] at this
  rw [doEvent_route (List.all_eq_true.mp (List.all_eq_true.mp this cur hsrc) _ hr)]

/-- `e` is refused by the table in `s1` and in every state one edge further -/
def deadAt (m : MachineDesc) (e : Ev) (s1 : St) : Bool :=
  refusesAt m e s1 && (succs m s1).all (refusesAt m e)

/-- every state `ev` can lead to (from anywhere) is dead for `e`: a callback of `e` that answers with `ev` ends the
matter for `e` -/
def deadVia (m : MachineDesc) (e ev : Ev) : Bool := m.events.all (fun d => d.name != ev || deadAt m e d.dst)

theorem deadVia_sound {m : MachineDesc} {e ev : Ev} (h : deadVia m e ev = true) {cur s1 : St}
    (hs : setState m cur ev = some s1) : deadAt m e s1 = true := by
  obtain ⟨tr, hl, rfl⟩ := Option.map_eq_some_iff.mp hs
  obtain ⟨d, hd, hn, _, rfl⟩ := lookup_row hl
  simpa [hn, EventDesc.toTr] using List.all_eq_true.mp h d hd

/-- the after-auto callbacks that can run in a `Do` of `e`: those of the states one edge away from a source of `e` -/
def autoAfter (m : MachineDesc) (e : Ev) : List (Ev × Option ActionId) :=
  (m.events.filter (·.name == e)).flatMap (fun d => d.src.flatMap (fun c =>
    (succs m c).filterMap (fun s1 => (autoLookup m s1 2).map (fun au => (au.event, callbackOf m au.event)))))

theorem mem_autoAfter {m : MachineDesc} {e : Ev} {cur s1 : St} {tr au : Tr}
    (hl : lookup m cur e = some tr) (he : Edge m cur s1) (hau : autoLookup m s1 2 = some au) :
    (au.event, callbackOf m au.event) ∈ autoAfter m e := by
  obtain ⟨d, hm, hn, hs, -⟩ := lookup_row hl
  unfold autoAfter
  rw [List.mem_flatMap]
  refine ⟨d, List.mem_filter.mpr ⟨hm, by simpa using hn⟩, ?_⟩
  rw [List.mem_flatMap]
  refine ⟨cur, hs, ?_⟩
  rw [List.mem_filterMap]
  exact ⟨s1, edge_mem_succs he, by simp [hau]⟩

section
variable (m : MachineDesc) (act : ActionId → Ev → P → A → ActOut P R) (e : Ev) (a : A)
  (hb : ∀ s, autoLookup m s 1 = none) (aid : ActionId) (hcb : callbackOf m e = some aid)
include hb hcb

/-- after an accepted `Do` of `e` the matter is settled: the payload satisfies `Q`, or the table refuses `e` in the state -/
theorem doEvent_ok_settled (Q : P → Prop)
    (hacc : ∀ p, (act aid e p a).res = .ok → Q (act aid e p a).payload ∨
      ∃ ev, (act aid e p a).outEvent = some ev ∧ deadVia m e ev = true)
    (hval : ∀ ev vid, (ev, some vid) ∈ autoAfter m e → ∀ p, Q p → Q (act vid ev p a).payload)
    (cur : St) (p : P) (hok : (doEvent m act cur p e a).res = .ok) :
    Q (doEvent m act cur p e a).payload ∨ refusesAt m e (doEvent m act cur p e a).state = true := by
  -- only the accepted path matters: no before-auto step, the callback of `e` accepted, its main edge led to `s1`
  refine doEvent_cases (motive := fun out => out.res = .ok → Q out.payload ∨ refusesAt m e out.state = true) m act cur p e a
    (route := nofun) (beforeFailed := fun _ _ _ _ hr h => absurd h hr) (refused := fun _ _ _ hr h => absurd h hr)
    (noRow := fun _ _ _ _ _ => nofun) (moved := fun tr s1 hl _ => ?_) hok
  simp only [processAuto_none (hb cur), mainCallback_noBefore hl hcb, lookup_event hl]
  intro ho hs1
  -- The callback settled `e` in one of two ways (`hacc`). By `Q`: then it only remains that the after-auto callback, if one
  -- runs in `s1`, keeps `Q` (`hval`). By answering with an event `ev` that `deadVia` covers: then the table refuses `e`
  -- in `s1` and in every state one edge further, and the after-auto step moves at most one edge.
  have hdead : (∃ ev, (act aid e p a).outEvent = some ev ∧ deadVia m e ev = true) →
      refusesAt m e s1 = true ∧ ∀ s2, Edge m s1 s2 → refusesAt m e s2 = true := by
    rintro ⟨ev, hev, hd⟩
    rw [hev] at hs1
    have := deadVia_sound hd hs1
    unfold deadAt at this
    rw [Bool.and_eq_true, List.all_eq_true] at this
    exact ⟨this.1, fun s2 he => this.2 s2 (edge_mem_succs he)⟩
  refine processAuto_cases (motive := fun b => b.res = .ok → Q b.payload ∨ refusesAt m e b.state = true) m act s1 _ 2 a
    (absent := fun _ _ => (hacc p ho).imp id (fun hd => (hdead hd).1))
    (refused := fun _ _ _ hr _ h => absurd h hr) (noRow := fun _ _ _ _ => nofun)
    (moved := fun au s2 hau _ hs2 _ => (hacc p ho).imp (fun hq => ?_) (fun hd => (hdead hd).2 s2 (setState_edge hs2)))
  cases hcv : callbackOf m au.event with
  | none => rw [mainCallback_blank_none hcv]; exact hq
  | some vid => rw [mainCallback_blank hcv]; exact hval _ _ (hcv ▸ mem_autoAfter hl (setState_edge hs1) hau) _ hq

theorem doEvent_refused (cur : St) (p : P) (h : (act aid e p a).res = .err ∨ refusesAt m e cur = true) :
    (doEvent m act cur p e a).res = .err := by
  rcases h with h | h
  · cases hl : lookup m cur e with
    | none => rw [doEvent_route (by rw [hl]; rfl)]
    | some tr =>
      cases hi : tr.isInternal with
      | true => rw [doEvent_route (by rw [hl]; exact hi)]
      | false => rw [doEvent_std hl hi (hb cur) hcb, if_pos (by rw [h]; rfl)]; exact h
  · rw [doEvent_route h]

/-- `Q` says of a payload that `e` has been dealt with: the callback of `e` does not panic on it, an accepted callback
finds it false and leaves it true (or answers with an event that leads where the table refuses `e`), the after-auto
callbacks keep it -/
theorem doEvent_reapply (Q : P → Prop) (hnp : ∀ p, Q p → (act aid e p a).res ≠ .panic)
    (hspec : ∀ p, (act aid e p a).res = .ok → ¬ Q p ∧ (Q (act aid e p a).payload ∨
      ∃ ev, (act aid e p a).outEvent = some ev ∧ deadVia m e ev = true))
    (hval : ∀ ev vid, (ev, some vid) ∈ autoAfter m e → ∀ p, Q p → Q (act vid ev p a).payload)
    (cur : St) (p : P) (hok : (doEvent m act cur p e a).res = .ok) :
    (doEvent m act (doEvent m act cur p e a).state (doEvent m act cur p e a).payload e a).res = .err := by
  refine doEvent_refused m act e a hb aid hcb _ _
    ((doEvent_ok_settled m act e a hb aid hcb Q (fun p hr => (hspec p hr).2) hval cur p hok).imp (fun hq => ?_) id)
  cases hr : (act aid e _ a).res with
  | ok => exact absurd hq (hspec _ hr).1
  | panic => exact absurd hr (hnp _ hq)
  | err => rfl

end

end Dc4bcVerif.Model
