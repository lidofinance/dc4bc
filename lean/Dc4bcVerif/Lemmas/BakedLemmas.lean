/-
  The baked list is stored as runs (start, length). If the runs are well formed (`runsOk`, decidable) their expansion is
  strictly increasing and bounded below, and it has the summed length; an upper bound is a test of the runs as well. So the
  facts of `Props/C17.lean` about 18 632 indices are evaluations over the runs, not over the indices.

  `reconstructBaked` is opened by its branches here first (`reconstructBaked_ne_panic`), because `Props/C17.lean` and
  `Props/C18.lean`, which both go through its branches, lie on no common import chain otherwise (the header of
  `Lemmas/NoPanic.lean` says why that matters).
-/
import Dc4bcVerif.Model.Tasks

namespace Dc4bcVerif.Model.Tasks

/-- decidable well-formedness of a run table: every run is non-empty and starts at or after
the end of the previous one -/
def runsOk : Nat → List (Nat × Nat) → Bool
  | _, [] => true
  | lo, (s, n) :: t => decide (lo ≤ s) && decide (0 < n) && runsOk (s + n) t

theorem expand_length (rs : List (Nat × Nat)) : (expandRuns rs).length = (rs.map (·.2)).sum := by
  induction rs with
  | nil => rfl
  | cons r t ih => obtain ⟨s, n⟩ := r; simp [expandRuns, ih]

theorem expand_sorted (lo : Nat) (rs : List (Nat × Nat)) (h : runsOk lo rs = true) :
    (expandRuns rs).Pairwise (· < ·) ∧ ∀ x ∈ expandRuns rs, lo ≤ x := by
  induction rs generalizing lo with
  | nil => exact ⟨List.Pairwise.nil, by intro x hx; cases hx⟩
  | cons r t ih =>
    obtain ⟨s, n⟩ := r
    simp only [runsOk, Bool.and_eq_true, decide_eq_true_eq] at h
    obtain ⟨⟨hlo, _⟩, ht⟩ := h
    obtain ⟨ih1, ih2⟩ := ih (s + n) ht
    constructor
    · simp only [expandRuns]
      rw [List.pairwise_append]
      refine ⟨List.pairwise_lt_range', ih1, ?_⟩
      intro a ha b hb
      have := ih2 b hb
      rw [List.mem_range'_1] at ha
      omega
    · intro x hx
      simp only [expandRuns, List.mem_append] at hx
      rcases hx with hx | hx
      · rw [List.mem_range'_1] at hx; omega
      · have := ih2 x hx; omega

theorem expand_bound (hi : Nat) (rs : List (Nat × Nat)) (h : rs.all (fun r => decide (r.1 + r.2 ≤ hi)) = true) :
    ∀ x ∈ expandRuns rs, x < hi := by
  induction rs with
  | nil => intro x hx; cases hx
  | cons r t ih =>
    obtain ⟨s, n⟩ := r
    simp only [List.all_cons, Bool.and_eq_true, decide_eq_true_eq] at h
    intro x hx
    simp only [expandRuns, List.mem_append] at hx
    rcases hx with hx | hx
    · rw [List.mem_range'_1] at hx; omega
    · exact ih h.2 x hx

/-- the baked-message lookup never panics, for every integer position (negative ones: fix 96d04d0) -/
theorem reconstructBaked_ne_panic (id : Int) : reconstructBaked id ≠ .panic := by
  fun_cases reconstructBaked id <;> nofun

end Dc4bcVerif.Model.Tasks
