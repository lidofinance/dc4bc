/-
  No callback dereferences a missing payload part when the parts it reads are present, and no callback ever
  drops a part: `runAction_sound`. Both hold branch by branch of a callback's definition, so the proofs go through the
  branches (`fun_cases`): a branch that returns the payload as it is, one that panics for want of a part, one that
  replaces a part by a new one. Per machine this gives a safety predicate on payloads (`SafeFor`) that rules out
  `Res.panic` for every callback of the machine and is kept by every callback; with `doEvent_safe` (FsmEngine),
  `Do` never panics on a safe payload and leaves a safe one.

  The phase files import this file although they use little of it: `fun_cases` generates the case principle of a
  definition in the first module that asks for it, and two modules that generate the same one cannot be imported
  together. Every callback is opened here or in `Callbacks.lean`, which this file imports, so whatever comes after finds
  its principle in the environment.
-/
import Dc4bcVerif.Lemmas.Callbacks
import Dc4bcVerif.Lemmas.FsmEngine

namespace Dc4bcVerif.Model
open Dc4bcVerif.Gen

structure keepsParts (p q : Payload) : Prop where
  sig : p.sig.isSome = true → q.sig.isSome = true
  dkg : p.dkg.isSome = true → q.dkg.isSome = true
  sign : p.sign.isSome = true → q.sign.isSome = true

theorem keepsParts.trans {p q r : Payload} (h1 : keepsParts p q) (h2 : keepsParts q r) : keepsParts p r :=
  ⟨fun h => h2.sig (h1.sig h), fun h => h2.dkg (h1.dkg h), fun h => h2.sign (h1.sign h)⟩

/-- what holds of every callback: it panics only when a part it reads is missing, and it never drops a part -/
structure Sound (needs : Prop) (p : Payload) (o : AOut) : Prop where
  noPanic : needs → o.res ≠ .panic
  keeps : keepsParts p o.payload

variable {needs : Prop} {p : Payload} {o : AOut}

theorem Sound.same (hp : o.payload = p) (hr : o.res ≠ .panic) : Sound needs p o :=
  ⟨fun _ => hr, hp ▸ ⟨id, id, id⟩⟩

theorem Sound.missing {α : Type} {x : Option α} (hx : x = none) (hp : o.payload = p) : Sound (x.isSome = true) p o :=
  ⟨fun h => by simp [hx] at h, hp ▸ ⟨id, id, id⟩⟩

theorem dkgReceived_sound (p : Payload) (pid : Int) (ts : Time) (dataEmpty : Bool) (awaitSt newSt : Nat)
    (upd : DkgPart → DkgPart) : Sound (p.dkg.isSome = true) p (dkgReceived p pid ts dataEmpty awaitSt newSt upd) := by
  fun_cases dkgReceived p pid ts dataEmpty awaitSt newSt upd
  case case2 hd => exact .missing hd rfl
  case case5 => exact ⟨fun _ => nofun, id, fun _ => rfl, id⟩
  all_goals exact .same rfl nofun

theorem dkgValidate_sound (p : Payload) (errSt okSt nextAwait : Nat) (timeoutEv errEv doneEv : Ev)
    (mkResp : List DkgPart → RespData) :
    Sound (p.dkg.isSome = true) p (dkgValidate p errSt okSt nextAwait timeoutEv errEv doneEv mkResp) := by
  fun_cases dkgValidate p errSt okSt nextAwait timeoutEv errEv doneEv mkResp
  case case1 hd => exact .missing hd rfl
  case case5 => exact ⟨fun _ => nofun, id, fun _ => rfl, id⟩
  all_goals exact .same rfl nofun

/-! The callbacks of the signing machine, moreover, leave the key-generation part as it is. -/

theorem signInit_sound (e : Ev) (p : Payload) (a : Arg) :
    Sound True p (sign_actionInitSigningProposal e p a) ∧ (sign_actionInitSigningProposal e p a).payload.dkg = p.dkg := by
  fun_cases sign_actionInitSigningProposal e p a
  case case2 => exact ⟨⟨fun _ => nofun, id, id, fun _ => rfl⟩, rfl⟩
  all_goals exact ⟨.same rfl nofun, rfl⟩

theorem signStart_sound (e : Ev) (p : Payload) (a : Arg) :
    Sound (p.sign.isSome = true ∧ p.dkg.isSome = true) p (sign_actionStartSigningProposal e p a) ∧
    (sign_actionStartSigningProposal e p a).payload.dkg = p.dkg := by
  fun_cases sign_actionStartSigningProposal e p a
  case case2 => exact ⟨⟨fun _ => nofun, id, id, fun _ => rfl⟩, rfl⟩
  case case3 hn =>
    refine ⟨⟨fun hr => ?_, id, id, id⟩, rfl⟩
    obtain ⟨sc, hs⟩ := Option.isSome_iff_exists.mp hr.1
    obtain ⟨dc, hd⟩ := Option.isSome_iff_exists.mp hr.2
    exact (hn sc dc hs hd).elim
  all_goals exact ⟨.same rfl nofun, rfl⟩

theorem signPartial_sound (e : Ev) (p : Payload) (a : Arg) :
    Sound (p.sign.isSome = true ∧ p.sig.isSome = true) p (sign_actionPartialSignConfirmationReceived e p a) ∧
    (sign_actionPartialSignConfirmationReceived e p a).payload.dkg = p.dkg := by
  fun_cases sign_actionPartialSignConfirmationReceived e p a
  case case2 hs => exact ⟨⟨fun hr => by simp [hs] at hr, id, id, id⟩, rfl⟩
  case case6 hs => exact ⟨⟨fun hr => by simp [hs] at hr, id, id, fun _ => rfl⟩, rfl⟩
  case case7 => exact ⟨⟨fun _ => nofun, fun _ => rfl, id, fun _ => rfl⟩, rfl⟩
  all_goals exact ⟨.same rfl nofun, rfl⟩

theorem signValidate_sound (e : Ev) (p : Payload) (a : Arg) :
    Sound (p.sign.isSome = true) p (sign_actionValidateSigningPartialSignsAwaitConfirmations e p a) ∧
    (sign_actionValidateSigningPartialSignsAwaitConfirmations e p a).payload.dkg = p.dkg := by
  fun_cases sign_actionValidateSigningPartialSignsAwaitConfirmations e p a
  case case1 hs => exact ⟨.missing hs rfl, rfl⟩
  case case5 => exact ⟨⟨fun _ => nofun, id, id, fun _ => rfl⟩, rfl⟩
  all_goals exact ⟨.same rfl nofun, rfl⟩

theorem signConfError_sound (e : Ev) (p : Payload) (a : Arg) :
    Sound (p.sign.isSome = true ∧ p.sig.isSome = true) p (sign_actionConfirmationError e p a) ∧
    (sign_actionConfirmationError e p a).payload.dkg = p.dkg := by
  fun_cases sign_actionConfirmationError e p a
  case case2 hs => exact ⟨⟨fun hr => by simp [hs] at hr, id, id, id⟩, rfl⟩
  case case6 hs => exact ⟨⟨fun hr => by simp [hs] at hr, id, id, fun _ => rfl⟩, rfl⟩
  case case7 => exact ⟨⟨fun _ => nofun, fun _ => rfl, id, fun _ => rfl⟩, rfl⟩
  all_goals exact ⟨.same rfl nofun, rfl⟩

/-- the payload parts a callback dereferences (a missing one is a nil-pointer panic of the Go callback) -/
def reads : ActionId → Payload → Prop
  | .sig_actionProposalResponseByParticipant, p | .sig_actionValidateSignatureProposal, p => p.sig.isSome = true
  | .dkg_actionInitDKGProposal, p => p.dkg.isSome = true ∨ ∃ sc, p.sig = some sc ∧ sc.quorum ≠ []
  | .dkg_actionCommitConfirmationReceived, p | .dkg_actionDealConfirmationReceived, p
  | .dkg_actionResponseConfirmationReceived, p | .dkg_actionMasterKeyConfirmationReceived, p
  | .dkg_actionConfirmationError, p | .dkg_actionValidateDkgProposalAwaitCommits, p
  | .dkg_actionValidateDkgProposalAwaitDeals, p | .dkg_actionValidateDkgProposalAwaitResponses, p
  | .dkg_actionValidateDkgProposalAwaitMasterKey, p => p.dkg.isSome = true
  | .sign_actionStartSigningProposal, p => p.sign.isSome = true ∧ p.dkg.isSome = true
  | .sign_actionPartialSignConfirmationReceived, p | .sign_actionConfirmationError, p =>
      p.sign.isSome = true ∧ p.sig.isSome = true
  | .sign_actionValidateSigningPartialSignsAwaitConfirmations, p => p.sign.isSome = true
  | .sig_actionInitSignatureProposal, _ | .sign_actionInitSigningProposal, _ | .sign_actionSigningRestart, _ => True

theorem runAction_sound (aid : ActionId) (e : Ev) (p : Payload) (a : Arg) :
    Sound (reads aid p) p (runAction aid e p a) := by
  cases aid <;> dsimp only [runAction, reads]
  · fun_cases sig_actionInitSignatureProposal e p a
    case case2 => exact ⟨fun _ => nofun, fun _ => rfl, id, id⟩
    all_goals exact .same rfl nofun
  · fun_cases sig_actionProposalResponseByParticipant e p a
    case case2 hs => exact .missing hs rfl
    case case7 => exact ⟨fun _ => nofun, fun _ => rfl, id, id⟩
    all_goals exact .same rfl nofun
  · fun_cases sig_actionValidateSignatureProposal e p a
    case case1 hs => exact .missing hs rfl
    all_goals exact .same rfl nofun
  · fun_cases dkg_actionInitDKGProposal e p a
    case case2 hd _ hs =>
      refine ⟨?_, id, id, id⟩
      rintro (h | ⟨sc, h, _⟩)
      · exact (hd h).elim
      · simp [hs] at h
    case case3 hd _ sc hs _ _ _ hq =>
      refine ⟨?_, id, fun _ => rfl, id⟩
      rintro (h | ⟨sc', h, hne⟩)
      · exact (hd h).elim
      · rw [hs] at h; cases h; exact (hne (List.head?_eq_none_iff.mp hq)).elim
    case case4 => exact ⟨fun _ => nofun, id, fun _ => rfl, id⟩
    all_goals exact .same rfl nofun
  · fun_cases dkg_actionCommitConfirmationReceived e p a
    · exact dkgReceived_sound ..
    · exact .same rfl nofun
  · fun_cases dkg_actionConfirmationError e p a
    case case2 hd => exact .missing hd rfl
    case case6 => exact ⟨fun _ => nofun, id, fun _ => rfl, id⟩
    all_goals exact .same rfl nofun
  · exact dkgValidate_sound ..
  · fun_cases dkg_actionDealConfirmationReceived e p a
    · exact dkgReceived_sound ..
    · exact .same rfl nofun
  · exact dkgValidate_sound ..
  · fun_cases dkg_actionResponseConfirmationReceived e p a
    · exact dkgReceived_sound ..
    · exact .same rfl nofun
  · exact dkgValidate_sound ..
  · fun_cases dkg_actionMasterKeyConfirmationReceived e p a
    case case2 hd => exact .missing hd rfl
    case case5 => exact ⟨fun _ => nofun, id, fun _ => rfl, id⟩
    case case6 => exact ⟨fun _ => nofun, id, fun _ => rfl, id⟩
    all_goals exact .same rfl nofun
  · fun_cases dkg_actionValidateDkgProposalAwaitMasterKey e p a
    case case1 hd => exact .missing hd rfl
    case case4 => exact ⟨fun _ => nofun, id, fun _ => rfl, id⟩
    case case6 => exact ⟨fun _ => nofun, id, fun _ => rfl, id⟩
    all_goals exact .same rfl nofun
  · exact (signInit_sound e p a).1
  · exact (signStart_sound e p a).1
  · exact (signPartial_sound e p a).1
  · exact (signValidate_sound e p a).1
  · exact (signConfError_sound e p a).1
  · exact .same rfl nofun

theorem runAction_keeps (aid : ActionId) (e : Ev) (p : Payload) (a : Arg) : keepsParts p (runAction aid e p a).payload :=
  (runAction_sound aid e p a).keeps

theorem runAction_no_panic (aid : ActionId) (e : Ev) (p : Payload) (a : Arg) (h : reads aid p) :
    (runAction aid e p a).res ≠ .panic :=
  (runAction_sound aid e p a).noPanic h

theorem doEvent_keeps (m : MachineDesc) (s : St) (p : Payload) (e : Ev) (a : Arg) :
    keepsParts p (doEvent m runAction s p e a).payload :=
  doEvent_mono (keepsParts p) m runAction (fun aid _ e q a hq => hq.trans (runAction_keeps aid e q a)) s p e a
    ⟨id, id, id⟩

theorem sig_cb_cases : ∀ aid ∈ sigMachine.callbacks.map (·.2),
    aid = .sig_actionInitSignatureProposal ∨ aid = .sig_actionProposalResponseByParticipant ∨
    aid = .sig_actionValidateSignatureProposal := by
  decide

theorem sign_cb_cases : ∀ aid ∈ signMachine.callbacks.map (·.2),
    aid = .sign_actionInitSigningProposal ∨ aid = .sign_actionStartSigningProposal ∨
    aid = .sign_actionPartialSignConfirmationReceived ∨
    aid = .sign_actionValidateSigningPartialSignsAwaitConfirmations ∨
    aid = .sign_actionConfirmationError ∨ aid = .sign_actionSigningRestart := by
  decide

theorem dkg_cb_cases : ∀ aid ∈ dkgMachine.callbacks.map (·.2),
    aid = .dkg_actionInitDKGProposal ∨ aid = .dkg_actionCommitConfirmationReceived ∨ aid = .dkg_actionDealConfirmationReceived ∨
    aid = .dkg_actionResponseConfirmationReceived ∨ aid = .dkg_actionMasterKeyConfirmationReceived ∨
    aid = .dkg_actionConfirmationError ∨ aid = .dkg_actionValidateDkgProposalAwaitCommits ∨
    aid = .dkg_actionValidateDkgProposalAwaitDeals ∨ aid = .dkg_actionValidateDkgProposalAwaitResponses ∨
    aid = .dkg_actionValidateDkgProposalAwaitMasterKey := by
  decide

/-- the parts the callbacks of a machine work on -/
def SafeFor : MachineId → Payload → Prop
  | .sig, p => p.sig.isSome = true
  | .dkg, p => p.dkg.isSome = true
  | .sign, p => p.sig.isSome = true ∧ p.dkg.isSome = true ∧ p.sign.isSome = true

theorem safeFor_reads (mid : MachineId) : ∀ aid ∈ (machineOf mid).callbacks.map (·.2), ∀ p, SafeFor mid p → reads aid p := by
  intro aid hmem p hs
  cases mid
  · rcases sig_cb_cases aid hmem with rfl | rfl | rfl
    · trivial
    · exact hs
    · exact hs
  · rcases dkg_cb_cases aid hmem with rfl | rfl | rfl | rfl | rfl | rfl | rfl | rfl | rfl | rfl
    · exact .inl hs
    all_goals exact hs
  · rcases sign_cb_cases aid hmem with rfl | rfl | rfl | rfl | rfl | rfl
    · trivial
    · exact ⟨hs.2.2, hs.2.1⟩
    · exact ⟨hs.2.2, hs.1⟩
    · exact hs.2.2
    · exact ⟨hs.2.2, hs.1⟩
    · trivial

theorem safeFor_keeps {mid : MachineId} {p q : Payload} (h : keepsParts p q) (hs : SafeFor mid p) : SafeFor mid q := by
  cases mid
  · exact h.sig hs
  · exact h.dkg hs
  · exact ⟨h.sig hs.1, h.dkg hs.2.1, h.sign hs.2.2⟩

theorem safeFor_safe (mid : MachineId) : ∀ aid ∈ (machineOf mid).callbacks.map (·.2), ∀ (e : Ev) (p : Payload) (a : Arg),
    SafeFor mid p → (runAction aid e p a).res ≠ .panic ∧ SafeFor mid (runAction aid e p a).payload :=
  fun aid hmem e p a hs =>
    ⟨runAction_no_panic aid e p a (safeFor_reads mid aid hmem p hs), safeFor_keeps (runAction_keeps aid e p a) hs⟩

theorem sign_preserves_dkg : ∀ aid ∈ signMachine.callbacks.map (·.2), ∀ (e : Ev) (p : Payload) (a : Arg),
    (runAction aid e p a).payload.dkg = p.dkg := by
  intro aid hmem e p a
  rcases sign_cb_cases aid hmem with rfl | rfl | rfl | rfl | rfl | rfl
  · exact (signInit_sound e p a).2
  · exact (signStart_sound e p a).2
  · exact (signPartial_sound e p a).2
  · exact (signValidate_sound e p a).2
  · exact (signConfError_sound e p a).2
  · rfl

end Dc4bcVerif.Model
