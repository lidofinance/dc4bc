/-
  Invariant of the airgapped machine's key-generation state (`Model/AirDkg.lean`), kept by every handler, hence by every
  operation and every run since a fresh start (`exec_inv`, `run_inv`, `fresh_inv`), whatever the payloads and the orders of
  Go's map ranges:

    the machine's own index is a participant index, there is one verifier per participant, and a verifier that holds
    the machine's OWN approval holds a deal whose share lies on the commitments that deal carries.

  Core-only; the algebra that turns it into "the stored share lies on the announced polynomial" is in Props/C02Air.lean.
-/
import Dc4bcVerif.Lemmas.AirDkgSteps

-- every statement carries all instance binders of the `variable` line, whether it uses them or not
set_option linter.unusedSectionVars false

namespace Dc4bcVerif.Lemmas.AirDkgInv
open Dc4bcVerif.Model.Shamir Dc4bcVerif.Model.AirDkg Dc4bcVerif.Lemmas.AirDkgSteps

variable {F : Type} [Add F] [Mul F] [Sub F] [Div F] [Zero F] [One F] [DecidableEq F] [NatCast F]
variable {K : Type} [DecidableEq K]

theorem lookup_put_self {V : Type} (k : String) (v : V) (l : List (String × V)) : lookup k (put k v l) = some v :=
  AirDkgSteps.lookup_put_self k v l

theorem lookup_put_ne {V : Type} (k k' : String) (v : V) (l : List (String × V)) (h : k' ≠ k) :
    lookup k' (put k v l) = lookup k' l :=
  AirDkgSteps.lookup_put_ne k k' v l h

/-- a verifier holding the approval of index `pid` holds a deal whose share lies on the deal's commitments at `pid`'s node -/
def VerOk (pid : Nat) (v : Verifier F) : Prop :=
  lookupN pid v.resp = some true → ∃ d, v.deal = some d ∧ evalPoly d.commits (node pid) = d.secV

def InstInv (i : Inst F K) : Prop :=
  i.pid < i.keys.length ∧ i.vers.length = i.keys.length ∧ ∀ v ∈ i.vers, VerOk i.pid v

def MachineInv (m : Machine F K) : Prop := ∀ round i, lookup round m.insts = some i → InstInv i

theorem verOk_empty (pid : Nat) : VerOk pid ({} : Verifier F) := by
  intro h; simp [lookupN] at h

theorem instInv_set {i : Inst F K} (h : InstInv i) (j : Nat) (v : Verifier F) (hv : VerOk i.pid v) :
    InstInv { i with vers := i.vers.set j v } := by
  obtain ⟨h1, h2, h3⟩ := h
  refine ⟨h1, by simpa using h2, ?_⟩
  intro w hw
  rcases List.mem_or_eq_of_mem_set hw with hw' | rfl
  · exact h3 w hw'
  · exact hv

/-- an own approval is written only next to the deal it approves -/
theorem dealStep_ok {n own : Nat} {v v' : Verifier F} {inner : Option (PlainDeal F)} {r : Option Bool} (k : Nat)
    (h : processEncryptedDeal n own v inner = (v', r)) (hv : VerOk own v) :
    VerOk own (match r with | none => v' | some _ => unsafeSet k true v') := by
  rw [processEncryptedDeal_eq] at h
  split at h
  · rename_i d hd
    have hno : lookupN own v.resp ≠ some true := fun hc => by
      obtain ⟨d0, hd0, _⟩ := hv hc
      rw [hd] at hd0; cases hd0
    split at h
    · cases h; exact hv
    · rename_i hI
      simp only at h
      split at h <;> cases h
      · exact fun hc => absurd hc hno
      · rename_i hadd
        intro hc
        simp only [lookupN_unsafeSet, (addResp_some hadd).2.1, Option.some.injEq, decide_eq_true_eq] at hc
        rw [Decidable.not_not.mp hI] at hc
        exact ⟨d, unsafeSet_deal .., hc.2.2⟩
  · cases h; exact hv

theorem dkgProcessDeal_inv (i : Inst F K) (od : OuterDeal F) (h : InstInv i) : InstInv (dkgProcessDeal i od).1 := by
  fun_cases dkgProcessDeal i od
  -- the two branches that write the dealer's verifier (the deal refused by the vss layer, or answered)
  case case4 v hv _ e | case5 v hv _ _ e => exact instInv_set h _ _ (dealStep_ok od.idx e (h.2.2 v (List.mem_of_getElem? hv)))
  all_goals exact h

theorem dkgProcessDeal_pid (i : Inst F K) (od : OuterDeal F) : (dkgProcessDeal i od).1.pid = i.pid := by
  obtain ⟨_, h⟩ := dkgProcessDeal_fst i od
  rw [h]

theorem processDeals_inv (ord : List String) : ∀ (i : Inst F K) (acc : List Nat), InstInv i → InstInv (processDeals i ord acc).1 :=
  processDeals_keeps dkgProcessDeal_inv ord

theorem genDeals_inv (i : Inst F K) (h : InstInv i) : InstInv (genDeals i).1 := by
  fun_cases genDeals i
  case case1 => exact h
  all_goals
    rename_i e
    have h1 := dkgProcessDeal_inv _ (ownDeal { i with processedOwn := true } i.pid) (show InstInv { i with processedOwn := true } from h)
    rwa [e] at h1

theorem storeCommits_inv (es : List (String × Option (List F))) (i : Inst F K) (h : InstInv i) : InstInv (storeCommits i es).1 := by
  obtain ⟨_, e⟩ := storeCommits_fst es i
  rw [e]; exact h

theorem storeDeals_inv (es : List (Int × String × Option (OuterDeal F))) (i : Inst F K) (h : InstInv i) : InstInv (storeDeals i es).1 := by
  obtain ⟨_, e⟩ := storeDeals_fst es i
  rw [e]; exact h

theorem storeResponses_inv (es : List (String × Option (List (RespMsg F)))) : ∀ (i : Inst F K), InstInv i → InstInv (storeResponses i es).1 := by
  intro i h
  obtain ⟨_, e⟩ := storeResponses_fst es i
  rw [e]; exact h

theorem verOk_sameBut {own k : Nat} {v w : Verifier F} (hv : VerOk own v) (hne : k ≠ own) (h : SameBut k v w) : VerOk own w := by
  intro hc
  rw [h.2 own (Ne.symm hne)] at hc
  rw [h.1]
  exact hv hc

theorem dkgProcessResponse_inv (i : Inst F K) (r : RespMsg F) (hne : r.ver ≠ i.pid) (h : InstInv i) :
    InstInv (dkgProcessResponse i r).1 := by
  obtain ⟨vers, dr, e, rfl | ⟨v, v', hv, hsame, rfl⟩⟩ := dkgProcessResponse_fst i r <;> rw [e]
  · exact h
  · exact instInv_set (i := { i with dealerResp := dr }) h _ _ (verOk_sameBut (h.2.2 v (List.mem_of_getElem? hv)) hne hsame)

theorem processResponses_inv (ord : List Nat) : ∀ (i : Inst F K), InstInv i → InstInv (processResponses i ord).1 :=
  processResponses_keeps dkgProcessResponse_inv ord

theorem machineInv_file {m : Machine F K} (h : MachineInv m) (round : String) {w : Option (Inst F K × Option (Keyring F))}
    (hw : ∀ i k, w = some (i, k) → InstInv i) : MachineInv (file round m w) := by
  intro r j hj
  by_cases hr : r = round
  · subst hr
    obtain _ | ⟨i, k⟩ := w
    · exact h r j hj
    · rw [lookup_file_insts] at hj
      cases hj; exact hw _ k rfl
  · rw [(lookup_file_ne round m w hr).1] at hj
    exact h r j hj

theorem onRound_inv {m : Machine F K} (h : MachineInv m) (round : String) {f : Inst F K → Inst F K × Option (Keyring F) × Res F}
    (hf : ∀ i, InstInv i → InstInv (f i).1) : MachineInv (onRound m round f).1 := by
  cases hi : lookup round m.insts with
  | none => rw [onRound_none hi]; exact h
  | some i => rw [onRound_some hi]; exact machineInv_file h round fun _ _ e => by cases e; exact hf i (h round i hi)

theorem commitsOp_inv (m : Machine F K) (round : String) (entries : List (KeyEntry K)) (poly : List F) (h : MachineInv m) :
    MachineInv (commitsOp m round entries poly).1 := by
  obtain (e | e) | ⟨inst, e, _, hlt, hvers⟩ := commitsOp_filed m round entries poly <;> rw [e]
  · exact h
  · exact h
  · refine machineInv_file h round (w := some (inst, none)) ?_
    rintro _ _ ⟨⟩
    refine ⟨hlt, by rw [hvers, List.length_replicate], fun v hv => ?_⟩
    rw [hvers, List.mem_replicate] at hv
    rw [hv.2]
    exact verOk_empty _

theorem dealsOp_inv (m : Machine F K) (round : String) (entries : List (String × Option (List F))) (h : MachineInv m) :
    MachineInv (dealsOp m round entries).1 := by
  rw [dealsOp_eq]
  refine onRound_inv h round fun i hi => ?_
  rw [dealsStep_fst]
  split
  · exact genDeals_inv _ (storeCommits_inv entries i hi)
  · exact storeCommits_inv entries i hi

theorem responsesOp_inv (m : Machine F K) (round : String) (entries : List (Int × String × Option (OuterDeal F))) (ord : List String)
    (h : MachineInv m) : MachineInv (responsesOp m round entries ord).1 := by
  rw [responsesOp_eq]
  refine onRound_inv h round fun i hi => ?_
  rw [responsesStep_fst]
  split
  · exact processDeals_inv ord _ [] (storeDeals_inv entries i hi)
  · exact storeDeals_inv entries i hi

theorem masterKeyOp_inv (m : Machine F K) (round : String) (entries : List (String × Option (List (RespMsg F)))) (ord : List Nat)
    (h : MachineInv m) : MachineInv (masterKeyOp m round entries ord).1 := by
  rw [masterKeyOp_eq]
  refine onRound_inv h round fun i hi => ?_
  rw [masterKeyStep_fst]
  split
  · exact processResponses_inv ord _ (storeResponses_inv entries i hi)
  · exact storeResponses_inv entries i hi

theorem fresh_inv (me : K) : MachineInv ({ me := me } : Machine F K) :=
  fun _ _ h => nomatch h

theorem exec_inv (m : Machine F K) (op : Op F K) (h : MachineInv m) : MachineInv (exec m op).1 := by
  cases op with
  | commits r e p => exact commitsOp_inv m r e p h
  | deals r e => exact dealsOp_inv m r e h
  | responses r e o => exact responsesOp_inv m r e o h
  | masterKey r e o => exact masterKeyOp_inv m r e o h
  | restart => exact fun _ _ hi => nomatch hi

theorem run_inv (ops : List (Op F K)) : ∀ (m : Machine F K), MachineInv m → MachineInv (run m ops) :=
  fun _ h => List.foldlRecOn (motive := MachineInv) ops _ h fun m h op _ => exec_inv m op h

end Dc4bcVerif.Lemmas.AirDkgInv
