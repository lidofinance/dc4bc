/-
  The invariant carried along every run of a round through the three machines, phase by phase
  (`phaseInv`), and its preservation by one accepted `Do` of the machine in charge (`phaseInv_do`). For the states of the
  signing machine it says only that the key generation has finished (`FinalInv`); the counts of a batch that is being
  collected are a separate invariant, `AwaitInv` of Props/C06.
-/
import Dc4bcVerif.Lemmas.SignPhase
import Dc4bcVerif.Lemmas.Pool

namespace Dc4bcVerif.Model
open Dc4bcVerif.Gen

/-- key generation finished: everybody confirmed, and all announced master keys are equal -/
def FinalInv (p : Payload) : Prop :=
  ∃ dc, p.dkg = some dc ∧ (∀ q ∈ dc.quorum, q.status = 10) ∧
    (∀ q ∈ dc.quorum, ∀ q' ∈ dc.quorum, q.masterKey = q'.masterKey)

def phaseInv : St → Payload → Prop
  | .s___idle, p => p.dkg = none
  | .s_state_sig_proposal_await_participants_confirmations, p => ∃ sc, SigInv p sc
  | .s_state_sig_proposal_collected, p =>
      p.dkg = none ∧ ∃ sc, p.sig = some sc ∧ sc.quorum ≠ [] ∧ ∀ q ∈ sc.quorum, q.status = 1
  | .s_state_dkg_commits_await_confirmations, p => ∃ dc, CommitsInv p dc
  | .s_state_dkg_deals_await_confirmations, p => ∃ dc, DealsInv p dc
  | .s_state_dkg_responses_await_confirmations, p => ∃ dc, ResponsesInv p dc
  | .s_state_dkg_master_key_await_confirmations, p => ∃ dc, MKInv p dc
  | .s_state_dkg_master_key_collected, p => FinalInv p
  | .s_stage_signing_idle, p => FinalInv p
  | .s_state_signing_await_partial_signs, p => FinalInv p
  | .s_state_signing_partial_signs_collected, p => FinalInv p
  | .s_state_signing_partial_signs_await_cancelled_by_error, p => FinalInv p
  | .s_state_signing_partial_signs_await_cancelled_by_timeout, p => FinalInv p
  | _, _ => True

/-- states owned by the signing machine (its initial state `master_key_collected` included) -/
def signFamily (s : St) : Bool :=
  s == sMKCollected || s == sIDLE || s == sAWAIT || s == sCOLLECTED || s == sCANCERR || s == sCANCTO

theorem signFamily_closed : closedUnder signMachine signFamily = true := by decide

theorem signFamily_phaseInv (s : St) (h : signFamily s = true) (p : Payload) : phaseInv s p = FinalInv p := by
  revert h; cases s <;> first | (intro h; rfl) | (intro h; exact absurd h (by decide))

/-- the cancelled states of invitation and key generation (absorbing, see C05.cancel_absorbing) -/
def cancelledSt (s : St) : Bool :=
  s == .s_state_sig_proposal_canceled_by_participant || s == .s_state_sig_proposal_canceled_by_timeout
  || s == .s_state_dkg_commits_await_canceled_by_error || s == .s_state_dkg_commits_await_canceled_by_timeout
  || s == .s_state_dkg_deals_await_canceled_by_error || s == .s_state_dkg_deals_await_canceled_by_timeout
  || s == .s_state_dkg_responses_await_canceled_by_error || s == .s_state_dkg_responses_sending_canceled_by_timeout
  || s == .s_state_dkg_master_key_await_canceled_by_error || s == .s_state_dkg_master_key_await_canceled_by_timeout

theorem cancelledSt_closed (mid : MachineId) : closedUnder (machineOf mid) cancelledSt = true := by
  cases mid <;> decide

theorem cancelledSt_phaseInv (s : St) (h : cancelledSt s = true) (p : Payload) : phaseInv s p := by
  revert h; cases s <;> first | (intro _; trivial) | (intro h; exact absurd h (by decide))

theorem state_classes (s : St) :
    s = sIdle0 ∨ s = sSigAwait ∨ s = sSigCollected ∨ s = sCommitsAwait ∨ s = sDealsAwait ∨ s = sResponsesAwait ∨
    s = sMKAwait ∨ signFamily s = true ∨ cancelledSt s = true := by
  cases s <;> decide

theorem owner_signFamily {s : St} (h : signFamily s = true) : owner s = .sign := by
  revert h; cases s <;> decide

/-- one accepted `Do` in a commits / deals / responses phase, given what `phaseInv` is in the four states the
phase can end in -/
theorem DkgPhase.step_inv (ph : DkgPhase) (hto : ∀ p, phaseInv ph.sCancTo p) (herr : ∀ p, phaseInv ph.sCancErr p)
    (hawait : ∀ p dc, ph.Inv p dc → phaseInv ph.sAwait p)
    (hnext : ∀ p dc, p.dkg = some dc → dc.quorum ≠ [] → (∀ q ∈ dc.quorum, q.status = ph.next) → phaseInv ph.sNext p)
    (p : Payload) (e : Ev) (a : Arg) (dc : DkgConf) (hinv : ph.Inv p dc)
    (hok : (doEvent dkgMachine runAction ph.sAwait p e a).res = .ok) :
    phaseInv (doEvent dkgMachine runAction ph.sAwait p e a).state (doEvent dkgMachine runAction ph.sAwait p e a).payload := by
  have he := doEvent_ok_public hok
  rw [ph.pub] at he
  obtain rfl | rfl : e = ph.eOk ∨ e = ph.eErr := by simpa using he
  · obtain ⟨pid, data, ts, part, _, _, _, hcase⟩ := ph.received_outcome p a dc hinv hok
    rcases hcase with ⟨_, hst⟩ | ⟨_, hcnt, hst, dc', hd', hlen', hall'⟩ | ⟨_, _, hst, dc', hinv', _, _⟩ <;> rw [hst]
    · exact hto _
    · refine hnext _ dc' hd' (fun h => ?_) hall'
      have := cntDkg_nonneg dc ph.ok
      rw [h] at hlen'
      have : dc.quorum.length = 0 := hlen'.symm
      omega
    · exact hawait _ dc' hinv'
  · rw [ph.error_outcome p a hok]; exact herr _

theorem phaseInv_do (s : St) (p : Payload) (e : Ev) (a : Arg) (hph : phaseInv s p)
    (hok : (doEvent (machineOf (owner s)) runAction s p e a).res = .ok) :
    phaseInv (doEvent (machineOf (owner s)) runAction s p e a).state
      (doEvent (machineOf (owner s)) runAction s p e a).payload := by
  have he := doEvent_ok_public hok
  rcases state_classes s with rfl | rfl | rfl | rfl | rfl | rfl | rfl | hs | hs
  · -- idle: the opening proposal
    simp only [owner, machineOf] at hok he ⊢
    obtain rfl : e = eSigInit := by simpa [sig_idle_public] using he
    rcases sig_init_outcome p a hph hok with hst | ⟨hst, sc, hinv⟩ <;> rw [hst]
    · trivial
    · exact ⟨sc, hinv⟩
  · -- invitations: a confirmation or a decline
    simp only [owner, machineOf] at hok he ⊢
    obtain ⟨sc, hinv⟩ := hph
    obtain rfl | rfl : e = eSigConfirm ∨ e = eSigDecline := by simpa [sig_await_public] using he
    · obtain ⟨pid, ts, part, _, _, hcase⟩ := sig_confirm_outcome p a sc hinv hok
      rcases hcase with hst | ⟨_, hcnt, hst, sc', hs', hd', hlen', hall'⟩ | ⟨_, _, hst, sc', hinv', _, _⟩ <;> rw [hst]
      · trivial
      · refine ⟨hd', sc', hs', fun hnil => ?_, hall'⟩
        have := cntSig_nonneg sc 1
        rw [hnil] at hlen'
        have : sc.quorum.length = 0 := hlen'.symm
        omega
      · exact ⟨sc', hinv'⟩
    · rcases sig_decline_outcome p a sc hinv hok with hst | hst <;> rw [hst] <;> trivial
  · -- invitations collected: the hand-over to key generation
    simp only [owner, machineOf] at hok he ⊢
    obtain ⟨hd, sc, hsc, _, _⟩ := hph
    obtain rfl : e = eDkgInit := by simpa [dkg_collected_public] using he
    rcases dkg_init_outcome p a hd sc hsc hok with hst | ⟨hst, dc, hinv, _⟩ <;> rw [hst]
    · trivial
    · exact ⟨dc, hinv⟩
  · obtain ⟨dc, hinv⟩ := hph
    exact commitsPhase.step_inv (fun _ => trivial) (fun _ => trivial) (fun _ dc h => ⟨dc, h⟩)
      (fun p dc hd hne hall => ⟨dc, dealsPhase.inv_of_all_await p dc hd hne hall⟩) p e a dc hinv hok
  · obtain ⟨dc, hinv⟩ := hph
    exact dealsPhase.step_inv (fun _ => trivial) (fun _ => trivial) (fun _ dc h => ⟨dc, h⟩)
      (fun p dc hd hne hall => ⟨dc, responsesPhase.inv_of_all_await p dc hd hne hall⟩) p e a dc hinv hok
  · obtain ⟨dc, hinv⟩ := hph
    refine responsesPhase.step_inv (fun _ => trivial) (fun _ => trivial) (fun _ dc h => ⟨dc, h⟩) ?_ p e a dc hinv hok
    intro p dc hd hne (hall : ∀ q ∈ dc.quorum, q.status = 9)
    obtain ⟨h1, h2⟩ := quorum_start DkgPart.status (a := 9) (b := 10) (by decide) hall hne
    -- the master-key phase starts with everybody awaited, so no two announced keys to compare yet
    exact ⟨dc, hd, h1, h2, fun q hq _ _ hs _ => by rw [hall q hq] at hs; cases hs⟩
  · -- master keys: an announcement or an error report
    simp only [owner, machineOf] at hok he ⊢
    obtain ⟨dc, hinv⟩ := hph
    obtain rfl | rfl : e = eMKOk ∨ e = eMKErr := by simpa [mk_public] using he
    · obtain ⟨pid, key, ts, poly, part, _, _, _, hcase⟩ := mk_received_outcome p a dc hinv hok
      rcases hcase with ⟨_, _, hst⟩ | ⟨_, ⟨_, hst⟩ | ⟨_, _, hst⟩ | ⟨_, _, ⟨_, hst, dc', hd', _, _, hall'⟩ | ⟨_, hst, dc', hinv', _⟩⟩⟩ <;>
        rw [hst]
      · trivial
      · trivial
      · trivial
      · exact ⟨dc', hd', fun q hq => (hall' q hq).1, fun q hq q' hq' => by rw [(hall' q hq).2, (hall' q' hq').2]⟩
      · exact ⟨dc', hinv'⟩
    · rw [mk_error_outcome p a hok]; trivial
  · -- the signing machine carries the key-generation result along unchanged
    rw [owner_signFamily hs]
    show phaseInv (doEvent signMachine runAction s p e a).state (doEvent signMachine runAction s p e a).payload
    rw [signFamily_phaseInv _ hs] at hph
    rw [signFamily_phaseInv _ (closedUnder_hops signFamily_closed (doEvent_hops signMachine runAction s p e a) hs)]
    unfold FinalInv
    rw [doEvent_preserves (·.dkg) signMachine runAction sign_preserves_dkg]
    exact hph
  · -- a cancelled state is not left, and nothing is claimed there
    exact cancelledSt_phaseInv _ (closedUnder_hops (cancelledSt_closed _) (doEvent_hops _ runAction s p e a) hs) _

end Dc4bcVerif.Model
