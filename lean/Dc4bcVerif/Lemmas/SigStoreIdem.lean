/-
  The signature repository of the node model is idempotent under saving the same list twice:
  `saveSignatures st l = some st' → saveSignatures st' l = some st'` — as LISTS, whatever the list contains
  (duplicates included) and whatever the store looked like before. Three instances of `Idem.F_idem`:
  entries per user (`addEntry`), messages of a batch, batches of a round.
-/
import Dc4bcVerif.Lemmas.Idem
import Dc4bcVerif.Lemmas.NodeSteps

namespace Dc4bcVerif.Model.Node
open Dc4bcVerif.Model Dc4bcVerif.Idem

theorem lookupS_eq_get {β : Type} (l : List (String × β)) (k : String) : lookupS l k = (get Prod.fst l k).map Prod.snd := rfl

theorem sf_assoc {β X : Type} (key : X → String) (inner : β → X → β) (d : β) (k : String) (ys : List X)
    (hys : ∀ y ∈ ys, key y = k) (hne : ys ≠ []) (o : Option (String × β)) :
    sf (fun o x => (key x, inner ((o.map Prod.snd).getD d) x)) o ys = some (k, ys.foldl inner ((o.map Prod.snd).getD d)) := by
  induction ys generalizing o with
  | nil => exact absurd rfl hne
  | cons y t ih =>
    have hy : key y = k := hys y List.mem_cons_self
    by_cases ht : t = []
    · subst ht; simp [sf, hy]
    · have := ih (fun z hz => hys z (List.mem_cons_of_mem _ hz)) ht (some (key y, inner ((o.map Prod.snd).getD d) y))
      simpa [sf] using this

theorem assoc_fold_idem {β X : Type} (key : X → String) (inner : β → X → β) (d : β)
    (hin : ∀ (b : β) (ys : List X), ys.foldl inner (ys.foldl inner b) = ys.foldl inner b) (l : List (String × β)) (xs : List X) :
    let stp := fun (l : List (String × β)) (x : X) => assocSet l (key x) (inner ((lookupS l (key x)).getD d) x)
    xs.foldl stp (xs.foldl stp l) = xs.foldl stp l := by
  intro stp
  have hstp : stp = step Prod.fst key (fun o x => (key x, inner ((o.map Prod.snd).getD d) x)) := by
    funext l x
    show assocSet l (key x) (inner ((lookupS l (key x)).getD d) x) = _
    exact assocSet_eq_touch l (key x) (fun o => inner (o.getD d) x)
  rw [hstp]
  refine F_idem Prod.fst key (fun o x => (key x, inner ((o.map Prod.snd).getD d) x)) (fun _ _ => rfl) ?_ xs.length xs (Nat.le_refl _) l
  intro k o ys hys
  by_cases hne : ys = []
  · subst hne; rfl
  · rw [sf_assoc key inner d k ys hys hne o, sf_assoc key inner d k ys hys hne _]
    simp only [Option.map_some, Option.getD_some]
    rw [hin]

theorem addEntry_eq_touch (es : List RSig) (rs : RSig) :
    addEntry es rs = touch (fun x : RSig => x.username) es rs.username (fun _ => rs) := by
  induction es with
  | nil => rfl
  | cons x t ih =>
    by_cases hx : (x.username == rs.username) = true
    · rw [touch_cons_pos _ x t _ _ hx]
      simp [addEntry, addEntry.go, hx]
    · rw [touch_cons_neg _ x t _ _ hx, ← ih]
      unfold addEntry
      simp only [List.any_cons, hx, Bool.false_or, addEntry.go, Bool.false_eq_true, ↓reduceIte]
      split <;> rfl

theorem entries_idem (es : List RSig) (xs : List RSig) : xs.foldl addEntry (xs.foldl addEntry es) = xs.foldl addEntry es := by
  have hstp : addEntry = step (fun x : RSig => x.username) (fun x : RSig => x.username) (fun _ x => x) := by
    funext es rs; exact addEntry_eq_touch es rs
  rw [hstp]
  exact F_idem_replace (fun x : RSig => x.username) es xs

def addMsg (bm : List (String × List RSig)) (rs : RSig) : List (String × List RSig) :=
  assocSet bm rs.msgId (addEntry ((lookupS bm rs.msgId).getD []) rs)

theorem msgs_idem (bm : List (String × List RSig)) (xs : List RSig) : xs.foldl addMsg (xs.foldl addMsg bm) = xs.foldl addMsg bm :=
  assoc_fold_idem (fun x : RSig => x.msgId) addEntry [] (fun b ys => entries_idem b ys) bm xs

theorem sigs_idem (store : List (String × List (String × List RSig))) (xs : List RSig) :
    xs.foldl addSig (xs.foldl addSig store) = xs.foldl addSig store :=
  -- `addSig store rs` is by definition `assocSet store rs.batch (addMsg ((lookupS store rs.batch).getD []) rs)`: the step of
  -- `assoc_fold_idem` at `key := (·.batch)`, `inner := addMsg`
  assoc_fold_idem (fun x : RSig => x.batch) addMsg [] (fun b ys => msgs_idem b ys) store xs

theorem saveSignatures_idem (st st' : NodeSt) (l : List RSig) (h : saveSignatures st l = some st') :
    saveSignatures st' l = some st' := by
  unfold saveSignatures at h ⊢
  cases l with
  | nil => cases h
  | cons first rest =>
    simp only [Option.some.injEq] at h ⊢
    subst h
    simp only [lookupS_assocSet_eq, Option.getD_some]
    rw [sigs_idem, assocSet_idem]

theorem placeholders_idem (st st3 : NodeSt) (m : NMsg) (payloadOf : Tasks.Msg → Bytes) (h : placeholders st m payloadOf = some st3)
    (R : String) (d : DumpV) : placeholders (saveFSM st3 R d) m payloadOf = some (saveFSM st3 R d) := by
  unfold placeholders at h ⊢
  split
  · rename_i hev
    simp only [hev, ↓reduceIte] at h
    split at h
    · cases h
    · split at h
      · have hi := saveSignatures_idem _ _ _ h
        unfold saveFSM
        rw [saveSignatures_rounds_irrelevant, hi]
        rfl
      · cases h
  · rfl


end Dc4bcVerif.Model.Node
