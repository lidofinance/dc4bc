/-
  For six definitions of Model/Actions.lean — four callbacks and the two shapes `dkgReceived`, `dkgValidate`, each shared by
  the three callbacks of the commits, deals and responses phases — the list of their possible results, each with the
  conditions its readers use (`…_cases`); a statement about the callback is proved by `rcases` on the list and rewriting with
  the result. A definition has a list here when two files need its results in this form: its phase file, for the outcome
  theorem, and `Props/C13Fsm.lean`, for re-application. Every other callback has one characterising lemma in its phase file
  (`sig_init_spec`, `sigAfter_cases`, `dkg_init_spec`, `sign_init_spec`, `sign_start_spec`, `sign_received_spec`,
  `sign_signerr_spec`, `signAfterValidate_cases`), except `sign_actionSigningRestart`, which is `aOk p` and is unfolded where
  it is used (`sign_restart`). Statements that hold of every branch for the same trivial reason (`Sound` in NoPanic, which
  stands before the phase files; that the invitation and signing validators keep a predicate, in C13Fsm) open the
  definition with `fun_cases` instead. The proofs here go through the branches of the definition, in its order; the
  branches not named return `aErr p`.
-/
import Dc4bcVerif.Model.Instance
import Dc4bcVerif.Lemmas.Quorum

namespace Dc4bcVerif.Model
open Dc4bcVerif.Gen

theorem eq_ite_cases {α : Type} {c : Prop} [Decidable c] {o x y : α} (h : o = if c then x else y) :
    (c ∧ o = x) ∨ (¬ c ∧ o = y) := by
  by_cases hc : c
  · exact .inl ⟨hc, by rw [h, if_pos hc]⟩
  · exact .inr ⟨hc, by rw [h, if_neg hc]⟩

variable (e : Ev) (p : Payload) (a : Arg)

theorem sigResp_cases :
    let o := sig_actionProposalResponseByParticipant e p a
    o = aErr p ∨ (p.sig = none ∧ o = aPanic p) ∨
    ∃ pid ts sc part, a = .sigPart pid ts ∧ p.sig = some sc ∧ getAt sc.quorum pid = some part ∧
      ((part.updatedAt + Config.signatureProposalConfirmationDeadline < ts ∧
        o = aOk p (some .e_event_sig_proposal_canceled_timeout)) ∨
       (¬ part.updatedAt + Config.signatureProposalConfirmationDeadline < ts ∧ part.status = 0 ∧
        ∃ st, (e = .e_event_sig_proposal_confirm_by_participant ∧ st = 1 ∨
               e = .e_event_sig_proposal_decline_by_participant ∧ st = 2) ∧
          o = aOk { p with sig := some { sc with
            quorum := setAt sc.quorum pid { part with status := st, updatedAt := ts }, updatedAt := ts } })) := by
  intro o
  subst o
  fun_cases sig_actionProposalResponseByParticipant e p a
  case case2 hs => exact .inr (.inl ⟨hs, rfl⟩)  -- no invitation data
  case case4 pid ts _ sc hs part hg hl => exact .inr (.inr ⟨pid, ts, sc, part, rfl, hs, hg, .inl ⟨hl, rfl⟩⟩)  -- late answer
  case case7 pid ts _ sc hs part hg hl hst _ st hn _ _ =>  -- accepted
    refine .inr (.inr ⟨pid, ts, sc, part, rfl, hs, hg, .inr ⟨hl, by simpa using hst, st, ?_, rfl⟩⟩)
    -- the new status is read off the event
    rcases eq_ite_cases hn.symm with ⟨he, h⟩ | ⟨-, h⟩
    · exact .inl ⟨eq_of_beq he, Option.some.inj h⟩
    rcases eq_ite_cases h with ⟨he, h⟩ | ⟨-, h⟩
    · exact .inr ⟨eq_of_beq he, Option.some.inj h⟩
    · cases h
  all_goals exact .inl rfl

theorem dkgReceived_cases (pid : Int) (ts : Time) (dataEmpty : Bool) (awaitSt newSt : Nat)
    (upd : DkgPart → DkgPart) :
    let o := dkgReceived p pid ts dataEmpty awaitSt newSt upd
    o = aErr p ∨ (p.dkg = none ∧ o = aPanic p) ∨
    ∃ dc part, p.dkg = some dc ∧ getAt dc.quorum pid = some part ∧ part.status = awaitSt ∧
      dataEmpty = false ∧ ¬ isZeroTime ts = true ∧
      o = aOk { p with dkg := some { dc with
        quorum := setAt dc.quorum pid { upd part with status := newSt, updatedAt := ts }, updatedAt := ts } } := by
  intro o
  subst o
  fun_cases dkgReceived p pid ts dataEmpty awaitSt newSt upd
  case case2 hd => exact .inr (.inl ⟨hd, rfl⟩)  -- no key-generation data
  case case5 hv dc hd part hg hst _ _ =>  -- accepted
    simp only [Bool.or_eq_true, decide_eq_true_eq, not_or, Bool.not_eq_true] at hv
    exact .inr (.inr ⟨dc, part, hd, hg, by simpa using hst, hv.1.2, by simp [hv.2], rfl⟩)
  all_goals exact .inl rfl

theorem mkReceived_cases :
    let o := dkg_actionMasterKeyConfirmationReceived e p a
    o = aErr p ∨ (p.dkg = none ∧ o = aPanic p) ∨
    ∃ pid key ts poly dc part, a = .masterKey pid key ts poly ∧ p.dkg = some dc ∧
      getAt dc.quorum pid = some part ∧ part.status = 9 ∧
      ((dc.pubPolyBz ≠ [] ∧ dc.pubPolyBz ≠ poly ∧
        o = aOk { p with dkg := some { dc with
            quorum := dc.quorum.map (fun q => { q with status := 11, error := some "public polynomial is mismatched" }),
            updatedAt := ts } }
          (some .e_event_dkg_master_key_confirm_canceled_by_error_internal)) ∨
       ((dc.pubPolyBz = [] ∨ dc.pubPolyBz = poly) ∧
        o = aOk { p with dkg := some { dc with
          quorum := setAt dc.quorum pid { part with masterKey := key, status := 10, updatedAt := ts },
          updatedAt := ts, pubPolyBz := poly } })) := by
  intro o
  subst o
  fun_cases dkg_actionMasterKeyConfirmationReceived e p a
  case case2 hd => exact .inr (.inl ⟨hd, rfl⟩)  -- no key-generation data
  case case5 pid key ts poly _ dc hd part hg hst hp _ =>  -- another polynomial than the one announced
    simp only [Bool.and_eq_true, Bool.not_eq_true', List.isEmpty_eq_false_iff, bne_iff_ne, ne_eq] at hp
    exact .inr (.inr ⟨pid, key, ts, poly, dc, part, rfl, hd, hg, by simpa using hst, .inl ⟨hp.1, hp.2, rfl⟩⟩)
  case case6 pid key ts poly _ dc hd part hg hst hp _ _ =>  -- accepted
    simp only [Bool.and_eq_true, Bool.not_eq_true', List.isEmpty_eq_false_iff, bne_iff_ne, ne_eq, not_and,
      Decidable.not_not] at hp
    exact .inr (.inr ⟨pid, key, ts, poly, dc, part, rfl, hd, hg, by simpa using hst,
      .inr ⟨Decidable.or_iff_not_imp_left.mpr hp, rfl⟩⟩)
  all_goals exact .inl rfl

theorem dkgValidate_cases (errSt okSt nextAwait : Nat) (timeoutEv errEv doneEv : Ev)
    (mkResp : List DkgPart → RespData) :
    let o := dkgValidate p errSt okSt nextAwait timeoutEv errEv doneEv mkResp
    (p.dkg = none ∧ o = aPanic p) ∨ ∃ dc, p.dkg = some dc ∧
      ((dc.expiresAt < dc.updatedAt ∧ o = aOk p (some timeoutEv)) ∨
       (¬ dc.expiresAt < dc.updatedAt ∧ dc.quorum.any (·.status == errSt) = true ∧ o = aOk p (some errEv)) ∨
       (¬ dc.expiresAt < dc.updatedAt ∧ dc.quorum.any (·.status == errSt) = false ∧
        cntDkg dc okSt < dc.quorum.length ∧ o = aOk p) ∨
       (¬ dc.expiresAt < dc.updatedAt ∧ dc.quorum.any (·.status == errSt) = false ∧
        ¬ cntDkg dc okSt < dc.quorum.length ∧
        ∃ resp, o = aOk { p with dkg := some { dc with quorum := dc.quorum.map (fun q => { q with status := nextAwait }) } }
          (some doneEv) (some resp))) := by
  intro o
  subst o
  fun_cases dkgValidate p errSt okSt nextAwait timeoutEv errEv doneEv mkResp
  case case1 hd => exact .inl ⟨hd, rfl⟩  -- no key-generation data
  case case2 dc hd h1 => exact .inr ⟨dc, hd, .inl ⟨h1, rfl⟩⟩  -- expired
  case case3 dc hd h1 _ h2 => exact .inr ⟨dc, hd, .inr (.inl ⟨h1, h2, rfl⟩)⟩  -- somebody reported an error
  case case4 dc hd h1 _ _ h2 h3 =>  -- still waiting
    exact .inr ⟨dc, hd, .inr (.inr (.inl ⟨h1, Bool.not_eq_true _ ▸ h2, Int.sub_pos.mp h3, rfl⟩))⟩
  case case5 dc hd h1 _ _ h2 h3 _ =>  -- everybody has delivered
    exact .inr ⟨dc, hd, .inr (.inr (.inr ⟨h1, Bool.not_eq_true _ ▸ h2, fun h => h3 (Int.sub_pos.mpr h), _, rfl⟩))⟩

theorem mkValidate_cases :
    let o := dkg_actionValidateDkgProposalAwaitMasterKey e p a
    (p.dkg = none ∧ o = aPanic p) ∨ ∃ dc, p.dkg = some dc ∧
      ((dc.expiresAt < dc.updatedAt ∧ o = aOk p (some .e_event_dkg_master_key_confirm_canceled_by_timeout_internal)) ∨
       (¬ dc.expiresAt < dc.updatedAt ∧ dc.quorum.any (·.status == 11) = true ∧
        o = aOk p (some .e_event_dkg_master_key_confirm_canceled_by_error_internal)) ∨
       (¬ dc.expiresAt < dc.updatedAt ∧ dc.quorum.any (·.status == 11) = false ∧ mkMismatchCond dc = true ∧
        o = aOk { p with dkg := some { dc with
            quorum := dc.quorum.map (fun q => { q with status := 11, error := some "master key is mismatched" }) } }
          (some .e_event_dkg_master_key_confirm_canceled_by_error_internal)) ∨
       (¬ dc.expiresAt < dc.updatedAt ∧ dc.quorum.any (·.status == 11) = false ∧ mkMismatchCond dc = false ∧
        cntDkg dc 10 < dc.quorum.length ∧ o = aOk p) ∨
       (¬ dc.expiresAt < dc.updatedAt ∧ dc.quorum.any (·.status == 11) = false ∧ mkMismatchCond dc = false ∧
        ¬ cntDkg dc 10 < dc.quorum.length ∧
        o = aOk { p with dkg := some { dc with quorum := dc.quorum.map (fun q => { q with status := 10 }) } }
          (some .e_event_dkg_master_key_confirmed_internal))) := by
  intro o
  subst o
  fun_cases dkg_actionValidateDkgProposalAwaitMasterKey e p a
  case case1 hd => exact .inl ⟨hd, rfl⟩  -- no key-generation data
  case case2 dc hd h1 => exact .inr ⟨dc, hd, .inl ⟨h1, rfl⟩⟩  -- expired
  case case3 dc hd h1 h2 => exact .inr ⟨dc, hd, .inr (.inl ⟨h1, h2, rfl⟩)⟩  -- somebody reported an error
  case case4 dc hd h1 h2 h3 _ => exact .inr ⟨dc, hd, .inr (.inr (.inl ⟨h1, Bool.not_eq_true _ ▸ h2, h3, rfl⟩))⟩  -- keys differ
  case case5 dc hd h1 h2 h3 h4 =>  -- still waiting
    exact .inr ⟨dc, hd, .inr (.inr (.inr (.inl ⟨h1, Bool.not_eq_true _ ▸ h2, Bool.not_eq_true _ ▸ h3, Int.sub_pos.mp h4, rfl⟩)))⟩
  case case6 dc hd h1 h2 h3 h4 _ =>  -- everybody has confirmed
    exact .inr ⟨dc, hd, .inr (.inr (.inr (.inr ⟨h1, Bool.not_eq_true _ ▸ h2, Bool.not_eq_true _ ▸ h3,
      fun h => h4 (Int.sub_pos.mpr h), rfl⟩)))⟩

theorem dkgConfError_cases :
    let o := dkg_actionConfirmationError e p a
    o = aErr p ∨ (p.dkg = none ∧ o = aPanic p) ∨
    ∃ pid err ts dc part awaitSt errSt, a = .dkgErr pid err ts ∧ p.dkg = some dc ∧
      getAt dc.quorum pid = some part ∧ part.status = awaitSt ∧
      (e = .e_event_dkg_commit_confirm_canceled_by_error ∧ awaitSt = 0 ∧ errSt = 2 ∨
       e = .e_event_dkg_deal_confirm_canceled_by_error ∧ awaitSt = 3 ∧ errSt = 5 ∨
       e = .e_event_dkg_response_confirm_canceled_by_error ∧ awaitSt = 6 ∧ errSt = 8 ∨
       e = .e_event_dkg_master_key_confirm_canceled_by_error ∧ awaitSt = 9 ∧ errSt = 11) ∧
      o = aOk { p with dkg := some { dc with
        quorum := setAt dc.quorum pid { part with status := errSt, error := err, updatedAt := ts }, updatedAt := ts } } := by
  intro o
  subst o
  fun_cases dkg_actionConfirmationError e p a
  case case2 hd => exact .inr (.inl ⟨hd, rfl⟩)  -- no key-generation data
  case case6 pid err ts _ dc hd part hg _ awaitSt errSt hph hst _ _ =>  -- accepted
    refine .inr (.inr ⟨pid, err, ts, dc, part, awaitSt, errSt, rfl, hd, hg, by simpa using hst, ?_, rfl⟩)
    -- the two statuses are read off the event
    rcases eq_ite_cases hph.symm with ⟨he, h⟩ | ⟨-, h⟩
    · cases h; exact .inl ⟨eq_of_beq he, rfl, rfl⟩
    rcases eq_ite_cases h with ⟨he, h⟩ | ⟨-, h⟩
    · cases h; exact .inr (.inl ⟨eq_of_beq he, rfl, rfl⟩)
    rcases eq_ite_cases h with ⟨he, h⟩ | ⟨-, h⟩
    · cases h; exact .inr (.inr (.inl ⟨eq_of_beq he, rfl, rfl⟩))
    rcases eq_ite_cases h with ⟨he, h⟩ | ⟨-, h⟩
    · cases h; exact .inr (.inr (.inr ⟨eq_of_beq he, rfl, rfl⟩))
    · cases h
  all_goals exact .inl rfl

end Dc4bcVerif.Model
