/-
  Quorums as lists (`getAt`, `setAt` of Model/Payload.lean) and the counts of members in a given
  status that the validators of the three machines compare with the quorum's size.
-/
import Dc4bcVerif.Model.Payload

namespace Dc4bcVerif.Model

theorem getAt_some {α : Type} {l : List α} {id : Int} {x : α} (h : getAt l id = some x) :
    0 ≤ id ∧ l[id.toNat]? = some x := by
  unfold getAt at h
  split at h
  · cases h
  · exact ⟨by omega, h⟩

theorem setAt_length {α : Type} (l : List α) (id : Int) (v : α) : (setAt l id v).length = l.length := by
  unfold setAt; split <;> simp

theorem getAt_setAt_self {α : Type} (l : List α) (id : Int) (old v : α) (h : getAt l id = some old) :
    getAt (setAt l id v) id = some v := by
  obtain ⟨h0, hi⟩ := getAt_some h
  unfold getAt setAt
  rw [if_neg (by omega), if_neg (by omega), List.getElem?_set_self (List.getElem?_eq_some_iff.mp hi).1]

theorem getAt_setAt_ne {α : Type} (l : List α) (i j : Int) (v : α) (h : j ≠ i) : getAt (setAt l i v) j = getAt l j := by
  unfold getAt setAt
  by_cases hi : i < 0
  · simp [hi]
  · by_cases hj : j < 0
    · simp [hj]
    · simp only [hi, hj, ↓reduceIte]
      have : i.toNat ≠ j.toNat := by omega
      rw [List.getElem?_set_ne this]

theorem getAt_map {α β : Type} (f : α → β) (l : List α) (id : Int) : getAt (l.map f) id = (getAt l id).map f := by
  unfold getAt
  split
  · rfl
  · exact List.getElem?_map

theorem mem_setAt {α : Type} {l : List α} {id : Int} {v x : α} (h : x ∈ setAt l id v) : x ∈ l ∨ x = v := by
  unfold setAt at h
  split at h
  · exact .inl h
  · exact List.mem_or_eq_of_mem_set h

theorem mem_setAt_self {α : Type} {l : List α} {id : Int} {old v : α} (h : getAt l id = some old) : v ∈ setAt l id v :=
  List.mem_of_getElem? (getAt_some (getAt_setAt_self l id old v h)).2

theorem mem_set_of_ne {α : Type} {l : List α} {i : Nat} {old v q : α} (hq : q ∈ l) (hi : l[i]? = some old)
    (hne : q ≠ old) : q ∈ l.set i v := by
  obtain ⟨j, hj, rfl⟩ := List.getElem_of_mem hq
  have hji : j ≠ i := by
    rintro rfl
    rw [List.getElem?_eq_getElem hj] at hi
    exact hne (Option.some.inj hi)
  rw [List.mem_iff_getElem]
  exact ⟨j, by simpa using hj, by rw [List.getElem_set_ne (Ne.symm hji)]⟩

theorem mem_setAt_of_ne {α : Type} {l : List α} {id : Int} {old v q : α} (h : getAt l id = some old)
    (hq : q ∈ l) (hne : q ≠ old) : q ∈ setAt l id v := by
  obtain ⟨h0, hg⟩ := getAt_some h
  unfold setAt
  rw [if_neg (by omega)]
  exact mem_set_of_ne hq hg hne

theorem filter_length_setAt {α : Type} (f : α → Bool) (l : List α) (id : Int) (old new : α) (h : getAt l id = some old) :
    (((setAt l id new).filter f).length : Int) + (if f old then 1 else 0)
      = ((l.filter f).length : Int) + (if f new then 1 else 0) := by
  obtain ⟨h0, hg⟩ := getAt_some h
  obtain ⟨hlt, rfl⟩ := List.getElem?_eq_some_iff.mp hg
  -- `List.countP_set` subtracts in `Nat`; `hpos`: if `old` is counted the count is positive, so the subtraction is exact
  have hpos : f l[id.toNat] = true → 0 < l.countP f := fun h1 => List.countP_pos_iff.mpr ⟨_, List.getElem_mem hlt, h1⟩
  rw [setAt, if_neg (by omega), ← List.countP_eq_length_filter, ← List.countP_eq_length_filter, List.countP_set hlt]
  cases h1 : f l[id.toNat] <;> cases f new <;> simp
  all_goals have := hpos h1; omega

/-- One step of a phase that counts deliveries, on the quorum as a list: everybody has status `a` (awaited) or `b`
(delivered); a member awaited is replaced by one that has delivered. -/
theorem quorum_step {α : Type} (st : α → Nat) (a b : Nat) {l : List α} {id : Int} {old new : α}
    (h : getAt l id = some old) (hab : a ≠ b) (ho : st old = a) (hn : st new = b) (hall : ∀ q ∈ l, st q = a ∨ st q = b) :
    (setAt l id new).length = l.length ∧
    (((setAt l id new).filter (st · == b)).length : Int) = (l.filter (st · == b)).length + 1 ∧
    ∀ q ∈ setAt l id new, st q = a ∨ st q = b := by
  refine ⟨setAt_length _ _ _, ?_, fun q hq => (mem_setAt hq).elim (hall q) (· ▸ .inr hn)⟩
  have := filter_length_setAt (st · == b) l id old new h
  simpa [ho, hn, hab] using this

theorem quorum_start {α : Type} (st : α → Nat) {l : List α} {a b : Nat} (hab : a ≠ b) (hall : ∀ q ∈ l, st q = a)
    (hne : l ≠ []) : (∀ q ∈ l, st q = a ∨ st q = b) ∧ ((l.filter (st · == b)).length : Int) < l.length := by
  rw [List.filter_eq_nil_iff.mpr (fun q hq => by simp [hall q hq, hab])]
  exact ⟨fun q hq => .inl (hall q hq), by simpa using List.length_pos_iff.mpr hne⟩

theorem quorum_full {α : Type} (st : α → Nat) {l : List α} {b : Nat}
    (h : ((l.filter (st · == b)).length : Int) = l.length) : ∀ q ∈ l, st q = b := by
  intro q hq
  simpa using List.length_filter_eq_length_iff.mp (Int.ofNat_inj.mp h) q hq

def cntSig (sc : SigConf) (st : Nat) : Int := ((sc.quorum.filter (·.status == st)).length : Int)

def cntDkg (dc : DkgConf) (st : Nat) : Int := ((dc.quorum.filter (·.status == st)).length : Int)

/-- number of quorum members with a given status, as Go's `int` -/
def cntSt (sc : SignConf) (st : Nat) : Int := ((sc.quorum.filter (·.status == st)).length : Int)

theorem cntSt_setAt (sc : SignConf) (pid : Int) (old new : SignPart) (st : Nat) (h : getAt sc.quorum pid = some old) :
    cntSt { sc with quorum := setAt sc.quorum pid new } st + (if old.status == st then 1 else 0)
      = cntSt sc st + (if new.status == st then 1 else 0) :=
  filter_length_setAt (fun q : SignPart => q.status == st) sc.quorum pid old new h

theorem cntDkg_nonneg (dc : DkgConf) (st : Nat) : 0 ≤ cntDkg dc st := by unfold cntDkg; omega

def allIn (dc : DkgConf) (a b : Nat) : Prop := ∀ q ∈ dc.quorum, q.status = a ∨ q.status = b

theorem cntSig_nonneg (sc : SigConf) (st : Nat) : 0 ≤ cntSig sc st := by unfold cntSig; omega

/-- `quorum_step` for the invitation and the key-generation part, in the words their invariants use -/
theorem cntSig_step (a b : Nat) {sc sc' : SigConf} {id : Int} {old new : SigPart} (h : getAt sc.quorum id = some old)
    (hab : a ≠ b) (ho : old.status = a) (hn : new.status = b) (hall : ∀ q ∈ sc.quorum, q.status = a ∨ q.status = b)
    (hq : sc'.quorum = setAt sc.quorum id new) :
    sc'.quorum.length = sc.quorum.length ∧ cntSig sc' b = cntSig sc b + 1 ∧ ∀ q ∈ sc'.quorum, q.status = a ∨ q.status = b := by
  unfold cntSig
  rw [hq]
  exact quorum_step SigPart.status a b h hab ho hn hall

theorem cntDkg_step (a b : Nat) {dc dc' : DkgConf} {id : Int} {old new : DkgPart} (h : getAt dc.quorum id = some old)
    (hab : a ≠ b) (ho : old.status = a) (hn : new.status = b) (hall : allIn dc a b) (hq : dc'.quorum = setAt dc.quorum id new) :
    dc'.quorum.length = dc.quorum.length ∧ cntDkg dc' b = cntDkg dc b + 1 ∧ allIn dc' a b := by
  unfold cntDkg allIn
  rw [hq]
  exact quorum_step DkgPart.status a b h hab ho hn hall

end Dc4bcVerif.Model
