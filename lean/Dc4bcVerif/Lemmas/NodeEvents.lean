/-
  Facts read off the generated tables about the four events the node feeds to a round itself — the two hand-overs, the
  start and the restart of a batch: which machine has them and from which states, and where one `Do` leads from there
  (each one evaluation over the rows of the tables); the restart in full (`restart_eq`: accepted by the signing machine in the
  three states a batch ends in, leaving it idle with the payload as it was), so that neither it nor the preliminary steps
  of the handler read the clock; and that what the node looks at after a hand-over — outcome, response
  state, response data (`seen`) — does not depend on the clock reading the hand-over event carries, for readings after
  the zero time (the stored payload IS stamped with it).
-/
import Dc4bcVerif.Lemmas.Reapply
import Dc4bcVerif.Lemmas.Pool
import Dc4bcVerif.Lemmas.SignPhase
import Dc4bcVerif.Lemmas.DkgPhases
import Dc4bcVerif.Lemmas.NodeSteps

namespace Dc4bcVerif.Model
open Dc4bcVerif.Gen Dc4bcVerif.Model.Node

theorem lookup_sources {e : Ev} {srcs : List St}
    (h : ∀ d ∈ (machineOf (evOwner e)).events, d.name = e → d.src = srcs)
    {mid : MachineId} {s : St} (hl : (lookup (machineOf mid) s e).isSome = true) : mid = evOwner e ∧ s ∈ srcs := by
  obtain rfl := lookup_evOwner hl
  obtain ⟨tr, htr⟩ := Option.isSome_iff_exists.mp hl
  obtain ⟨d, hd, hn, hs, _⟩ := lookup_row htr
  exact ⟨rfl, h d hd hn ▸ hs⟩

theorem dkginit_sources {mid : MachineId} {s : St} (h : (lookup (machineOf mid) s eDkgInit).isSome = true) :
    mid = .dkg ∧ s ∈ [sSigCollected] := lookup_sources (by decide) h

theorem signinit_sources {mid : MachineId} {s : St} (h : (lookup (machineOf mid) s eSignInit).isSome = true) :
    mid = .sign ∧ s ∈ [sMKCollected] := lookup_sources (by decide) h

theorem start_sources {mid : MachineId} {s : St} (h : (lookup (machineOf mid) s eSTART).isSome = true) :
    mid = .sign ∧ s ∈ [sIDLE] := lookup_sources (by decide) h

theorem restart_sources {mid : MachineId} {s : St} (h : (lookup (machineOf mid) s eRESTART).isSome = true) :
    mid = .sign ∧ s ∈ [sCOLLECTED, sCANCTO, sCANCERR] := lookup_sources (by decide) h

theorem restart_rows (mid : MachineId) (s : St) :
    (mid = .sign ∧ (s = sCOLLECTED ∨ s = sCANCERR ∨ s = sCANCTO)) ∨ lookup (machineOf mid) s eRESTART = none := by
  cases h : lookup (machineOf mid) s eRESTART with
  | none => exact Or.inr rfl
  | some tr =>
    obtain ⟨hm, hs⟩ := restart_sources (by rw [h]; rfl)
    simp only [List.mem_cons, List.not_mem_nil, or_false] at hs
    -- the table lists the three sources in another order than `sign_restart`, `C06.restart_goes_idle` and
    -- `C18Node.restart_only_sign` state them
    exact Or.inl ⟨hm, by rcases hs with h | h | h <;> simp [h]⟩

/-- **The restart of a signing round, in full**: it is accepted exactly by the signing machine in the three states a batch
ends in, does not look at its argument, and leaves the idle signing machine with the payload as it was. -/
theorem restart_eq (i : Instance) (a : Arg) :
    (doOrReject i eRESTART a).map (·.1) =
      if i.machine = .sign ∧ (i.state = sCOLLECTED ∨ i.state = sCANCERR ∨ i.state = sCANCTO) then
        some { machine := .sign, state := sIDLE, dumpState := some sIDLE, payload := i.payload }
      else none := by
  unfold doOrReject
  dsimp only
  by_cases hc : i.machine = .sign ∧ (i.state = sCOLLECTED ∨ i.state = sCANCERR ∨ i.state = sCANCTO)
  · obtain ⟨hst, hok, hp⟩ := sign_restart i.state hc.2 i.payload a
    have e2 : (i.doEv eRESTART a).2 = doEvent signMachine runAction i.state i.payload eRESTART a := by rw [doEv_snd, hc.1]; rfl
    have hok' : (i.doEv eRESTART a).2.res = .ok := e2 ▸ hok
    rw [if_pos hc, if_pos (by rw [hok']; rfl), Option.map_some, doEv_fst hok', e2, hst, hp, hc.1]
  · have hnone := (restart_rows i.machine i.state).resolve_left hc
    have := doEv_route i (e := eRESTART) (by rw [hnone]; rfl) a
    rw [if_neg hc, if_neg (by rw [this]; decide)]
    rfl

theorem restart_some {i i' : Instance} {a : Arg} {o : Out} (h : doOrReject i eRESTART a = some (i', o)) :
    i.machine = .sign ∧ (i.state = sCOLLECTED ∨ i.state = sCANCERR ∨ i.state = sCANCTO) ∧
    i' = { machine := .sign, state := sIDLE, dumpState := some sIDLE, payload := i.payload } := by
  have := restart_eq i a
  rw [h] at this
  split at this
  · rename_i hc
    exact ⟨hc.1, hc.2, Option.some.inj this⟩
  · cases this

-- so the restart does not read the clock, and neither do the preliminary steps nor the restart after a collected batch
theorem restart_indep (i : Instance) (n1 n2 : Time) :
    (doOrReject i .e_event_signing_restart (.default n1)).map (·.1) = (doOrReject i .e_event_signing_restart (.default n2)).map (·.1) := by
  rw [restart_eq, restart_eq]

theorem restartSigning_indep (st : NodeSt) (i : Instance) (round : String) (n1 n2 : Time) :
    restartSigning st i round n1 = restartSigning st i round n2 := by
  have e : ∀ n, restartSigning st i round n =
      ((doOrReject i .e_event_signing_restart (.default n)).map (·.1)).map (fun i' => (st, i')) := by
    intro n; unfold restartSigning; cases doOrReject i .e_event_signing_restart (.default n) <;> rfl
  rw [e, e, restart_indep i n1 n2]

theorem preSteps_indep (st : NodeSt) (i : Instance) (m : NMsg) (n1 n2 : Time) : preSteps st i m n1 = preSteps st i m n2 := by
  have s1 : ∀ st i, step1 st i m n1 = step1 st i m n2 := by
    intro st i; unfold step1; rw [restartSigning_indep st i m.round n1 n2]
  have s2 : ∀ st i, step2 st i m n1 = step2 st i m n2 := by
    intro st i; unfold step2; rw [restartSigning_indep st i m.round n1 n2]
  unfold preSteps
  simp only [s1, s2]

theorem restartAfterCollect_indep (c : Bool) (i : Instance) (n1 n2 : Time) : restartAfterCollect c i n1 = restartAfterCollect c i n2 := by
  unfold restartAfterCollect
  split
  · split
    · rfl
    · exact restart_indep _ n1 n2
  · rfl

/-- a hand-over state is entered only inside the machine it ends: `sSigCollected` in the invitation machine, `sMKCollected` in
the key-generation machine -/
theorem handover_rows (mid : MachineId) : ∀ d ∈ (machineOf mid).events,
    (d.dst = sSigCollected → mid = .sig) ∧ (d.dst = sMKCollected → mid = .dkg) := by
  cases mid <;> decide

theorem handover_entered {mid : MachineId} {s0 s : St} (h : s ∈ reach1 (machineOf mid) s0) :
    (s = sSigCollected → mid = .sig) ∧ (s = sMKCollected → mid = .dkg) := by
  obtain ⟨d, hd, rfl⟩ := mem_reach1_dst h
  exact handover_rows mid d hd

-- One `Do` from the entry state of the key-generation machine, from that of the signing machine and from the idle signing
-- machine stays with that machine (the pool maps the state reached to it) and does not end in the states named: no second
-- hand-over and no restart follows a hand-over, and the start of a batch hands nothing over.
theorem after_dkginit : ∀ s ∈ reach1 dkgMachine sSigCollected, owner s = .dkg ∧ s ≠ sMKCollected ∧ s ≠ sCOLLECTED := by
  decide
theorem after_signinit : ∀ s ∈ reach1 signMachine sMKCollected, owner s = .sign ∧ s ≠ sCOLLECTED := by decide
theorem after_start : ∀ s ∈ reach1 signMachine sIDLE, owner s = .sign ∧ s ≠ sSigCollected ∧ s ≠ sMKCollected := by
  decide

theorem doEv_ok_facts (i : Instance) (e : Ev) (a : Arg) (hok : (i.doEv e a).2.res = .ok) :
    (lookup (machineOf i.machine) i.state e).isSome = true ∧
    (i.doEv e a).1.state ∈ reach1 (machineOf i.machine) i.state ∧
    (i.doEv e a).1.machine = i.machine ∧
    (i.doEv e a).1.dumpState = some (i.doEv e a).1.state ∧
    respStateOf (i.doEv e a).2 = some (i.doEv e a).1.state := by
  obtain ⟨h1, h2⟩ := doEvent_ok_reach (machineOf i.machine) runAction i.state i.payload e a (no_before_auto i.machine i.state) hok
  obtain ⟨d, hresp⟩ := doEvent_ok_state (machineOf i.machine) runAction i.state i.payload e a hok
  refine ⟨h1, h2, rfl, by rw [doEv_fst hok], ?_⟩
  rw [respStateOf, doEv_snd, hresp]
  rfl


theorem handOver_facts {i i' : Instance} {e : Ev} {now : Time} {rs : Option St} {rd : Option RespData}
    (h : handOver i e now = some (i', rs, rd)) :
    ∃ s0, i.dumpState = some s0 ∧ (lookup (machineOf i'.machine) s0 e).isSome = true ∧
      i'.state ∈ reach1 (machineOf i'.machine) s0 ∧ i'.dumpState = some i'.state ∧ rs = some i'.state := by
  obtain ⟨r, o, hr, hdo, hrs, _⟩ := handOver_some h
  cases hd : i.dumpState with
  | none => rw [hd] at hr; cases hr
  | some s0 =>
    rw [hd, restore_eq] at hr
    cases hr
    obtain ⟨hok, rfl, rfl⟩ := doOrReject_some hdo
    obtain ⟨hsome, hreach, _, hdump, hresp⟩ := doEv_ok_facts _ e _ hok
    exact ⟨s0, rfl, hsome, hreach, hdump, hrs.trans hresp⟩


theorem dkginit_handOver {i i' : Instance} {now : Time} {rs : Option St} {rd : Option RespData}
    (h : handOver i eDkgInit now = some (i', rs, rd)) :
    i.dumpState = some sSigCollected ∧ i'.dumpState = some i'.state ∧ rs = some i'.state ∧
    owner i'.state = .dkg ∧ i'.state ≠ sMKCollected ∧ i'.state ≠ sCOLLECTED := by
  obtain ⟨s0, hd, hsome, hreach, hdump, hrs⟩ := handOver_facts h
  obtain ⟨hm, hs0⟩ := dkginit_sources hsome
  cases List.mem_singleton.mp hs0
  rw [hm] at hreach
  exact ⟨hd, hdump, hrs, after_dkginit _ hreach⟩


theorem signinit_handOver {i i' : Instance} {now : Time} {rs : Option St} {rd : Option RespData}
    (h : handOver i eSignInit now = some (i', rs, rd)) :
    i.dumpState = some sMKCollected ∧ i'.machine = .sign ∧ i'.dumpState = some i'.state ∧ rs = some i'.state ∧
    owner i'.state = .sign ∧ i'.state ≠ sCOLLECTED := by
  obtain ⟨s0, hd, hsome, hreach, hdump, hrs⟩ := handOver_facts h
  obtain ⟨hm, hs0⟩ := signinit_sources hsome
  cases List.mem_singleton.mp hs0
  rw [hm] at hreach
  exact ⟨hd, hm, hdump, hrs, after_signinit _ hreach⟩


-- the validators read the stamps only in their deadline test, which a phase just stamped at a reading after the zero
-- time passes
theorem not_expired (n : Time) (h : zeroTime < n) : ¬ (n + Config.dkgConfirmationDeadline < zeroTime) := by
  have : ∀ (x d z : Int), 0 ≤ d → z < x → ¬ (x + d < z) := by intros; omega
  exact this _ _ _ (by decide) h

/-- what of a `Do`'s result the node looks at after a hand-over -/
def seen (o : Out) : Res × Option St × Option RespData := (o.res, respStateOf o, respDataOf o)

theorem validateCommits_indep (p1 p2 : Payload) (dc1 dc2 : DkgConf) (a1 a2 : Arg) (h1 : p1.dkg = some dc1) (h2 : p2.dkg = some dc2)
    (hq : dc1.quorum = dc2.quorum) (e1 : ¬ dc1.expiresAt < dc1.updatedAt) (e2 : ¬ dc2.expiresAt < dc2.updatedAt) :
    let v1 := dkg_actionValidateDkgProposalAwaitCommits eCommitsVal p1 a1
    let v2 := dkg_actionValidateDkgProposalAwaitCommits eCommitsVal p2 a2
    v1.res = v2.res ∧ v1.outEvent = v2.outEvent ∧ v1.data = v2.data := by
  unfold dkg_actionValidateDkgProposalAwaitCommits dkgValidate
  simp only [h1, h2, e1, e2, ↓reduceIte, hq]
  split
  · simp [aOk]
  · split
    · simp [aOk]
    · simp [aOk]

theorem commitsAfter_indep (o1 o2 : AOut) (a1 a2 : Arg) (hd : o1.data = o2.data)
    (hv : let v1 := dkg_actionValidateDkgProposalAwaitCommits eCommitsVal o1.payload a1
          let v2 := dkg_actionValidateDkgProposalAwaitCommits eCommitsVal o2.payload a2
          v1.res = v2.res ∧ v1.outEvent = v2.outEvent ∧ v1.data = v2.data) :
    seen (commitsAfter o1 a1) = seen (commitsAfter o2 a2) := by
  obtain ⟨r, e, d⟩ := hv
  unfold commitsAfter autoTail seen respStateOf respDataOf
  simp only [r, e, d, hd]
  cases (dkg_actionValidateDkgProposalAwaitCommits eCommitsVal o2.payload a2).res with
  | ok =>
    simp only
    cases setState dkgMachine sCommitsAwait ((dkg_actionValidateDkgProposalAwaitCommits eCommitsVal o2.payload a2).outEvent.getD eCommitsVal) <;> rfl
  | err => rfl
  | panic => rfl

theorem dkginit_indep (p : Payload) (n1 n2 : Time) (s1 : zeroTime < n1) (s2 : zeroTime < n2) :
    seen (doEvent dkgMachine runAction sSigCollected p eDkgInit (.default n1)) =
    seen (doEvent dkgMachine runAction sSigCollected p eDkgInit (.default n2)) := by
  rw [doEvent_std dkginit_lookup rfl (no_before_auto .dkg sSigCollected) dkginit_cb,
      doEvent_std dkginit_lookup rfl (no_before_auto .dkg sSigCollected) dkginit_cb]
  simp only [runAction_dkginit]
  unfold dkg_actionInitDKGProposal
  by_cases hd : p.dkg.isSome = true
  · -- key generation part already there: the action does nothing, the validator sees the same payload
    simp only [hd, ↓reduceIte, aOk, bne_self_eq_false, Bool.false_eq_true]
    rw [commits_after _ _ _ _ _ (by exact setState_of_lookup dkginit_lookup), commits_after _ _ _ _ _ (by exact setState_of_lookup dkginit_lookup)]
    apply commitsAfter_indep _ _ _ _ rfl
    simp only
    unfold dkg_actionValidateDkgProposalAwaitCommits dkgValidate
    exact ⟨rfl, rfl, rfl⟩
  · simp only [hd, Bool.false_eq_true, ↓reduceIte]
    cases hs : p.sig with
    | none => simp [aPanic, seen, respStateOf, respDataOf]
    | some sc =>
      simp only
      cases hh : sc.quorum.head? with
      | none => simp [aPanic, seen, respStateOf, respDataOf]
      | some q0 =>
        simp only [aOk, bne_self_eq_false, Bool.false_eq_true, ↓reduceIte]
        rw [commits_after _ _ _ _ _ (by exact setState_of_lookup dkginit_lookup), commits_after _ _ _ _ _ (by exact setState_of_lookup dkginit_lookup)]
        refine commitsAfter_indep _ _ _ _ ?_ ?_
        · rfl
        exact validateCommits_indep _ _ _ _ _ _ rfl rfl rfl (not_expired n1 s1) (not_expired n2 s2)

theorem signinit_indep (p : Payload) (n1 n2 : Time) (s1 : zeroTime < n1) (s2 : zeroTime < n2) :
    seen (doEvent signMachine runAction sMKCollected p eSignInit (.default n1)) =
    seen (doEvent signMachine runAction sMKCollected p eSignInit (.default n2)) := by
  have nz : ∀ n, zeroTime < n → isZeroTime n = false := by
    intro n h
    unfold isZeroTime at *
    have : n ≠ zeroTime := by intro e; rw [e] at h; exact absurd h (by decide)
    simpa using this
  rw [doEvent_std sign_lookup_init rfl (no_before_auto .sign sMKCollected) sign_cb_init,
      doEvent_std sign_lookup_init rfl (no_before_auto .sign sMKCollected) sign_cb_init]
  have hact : ∀ n, zeroTime < n → runAction .sign_actionInitSigningProposal eSignInit p (.default n) =
      aOk { p with sign := some { createdAt := n, expiresAt := n + Config.signingConfirmationDeadline } } := by
    intro n h
    show sign_actionInitSigningProposal eSignInit p (.default n) = _
    rw [sign_init_default, nz n h]
    rfl
  rw [hact n1 s1, hact n2 s2]
  simp only [aOk, bne_self_eq_false, Bool.false_eq_true, ↓reduceIte]
  rw [doTrAfter_plain (s1 := sIDLE) (by exact setState_of_lookup sign_lookup_init) idle_no_auto, doTrAfter_plain (s1 := sIDLE) (by exact setState_of_lookup sign_lookup_init) idle_no_auto]
  rfl

theorem handOver_indep (i : Instance) (e : Ev) (he : e = eDkgInit ∨ e = eSignInit) (n1 n2 : Time) (s1 : zeroTime < n1) (s2 : zeroTime < n2) :
    (handOver i e n1).map (·.2) = (handOver i e n2).map (·.2) := by
  unfold handOver
  cases hr : Instance.restore i.dumpState i.payload with
  | none => rfl
  | some r =>
    dsimp only
    -- the `Do` of the hand-over event on the loaded round
    have hseen : seen (r.doEv e (.default n1)).2 = seen (r.doEv e (.default n2)).2 := by
      rw [doEv_snd, doEv_snd]
      cases hl : lookup (machineOf r.machine) r.state e with
      | none => unfold doEvent; simp only [hl]
      | some tr =>
        have hl : (lookup (machineOf r.machine) r.state e).isSome = true := by rw [hl]; rfl
        rcases he with rfl | rfl
        · obtain ⟨hm, hs⟩ := dkginit_sources hl
          rw [hm, List.mem_singleton.mp hs]; exact dkginit_indep r.payload n1 n2 s1 s2
        · obtain ⟨hm, hs⟩ := signinit_sources hl
          rw [hm, List.mem_singleton.mp hs]; exact signinit_indep r.payload n1 n2 s1 s2
    unfold seen at hseen
    simp only [Prod.mk.injEq] at hseen
    obtain ⟨hres, hrs, hrd⟩ := hseen
    unfold doOrReject
    simp only [hres]
    by_cases hok : ((r.doEv e (.default n2)).2.res == .ok) = true
    · simp only [hok, ↓reduceIte, Option.map_some, hrs, hrd]
    · simp only [hok, Bool.false_eq_true, ↓reduceIte, Option.map_none]


end Dc4bcVerif.Model
