/-
  Facts about the three generated tables together (`machineOf`): no table has a before-auto event, and every event
  belongs to one machine (`evOwner`, as `owner` of Lemmas/Pool does for the states), so an event that has a row in one
  table has none in another.
-/
import Dc4bcVerif.Model.Instance
import Dc4bcVerif.Lemmas.FsmEngine

namespace Dc4bcVerif.Model
open Dc4bcVerif.Gen

theorem machineOf_id {m : MachineDesc} (h : m ∈ allMachines) : machineOf m.id = m := by
  simp only [allMachines, List.mem_cons, List.not_mem_nil, or_false] at h
  rcases h with rfl | rfl | rfl <;> rfl

theorem no_before_auto (mid : MachineId) (s : St) : autoLookup (machineOf mid) s 1 = none := by
  cases mid <;> exact autoLookup_before_none (by decide) s

/-- the machine an event belongs to -/
def evOwner : Ev → MachineId
  | .e_event_sig_proposal_init | .e_event_sig_proposal_confirm_by_participant | .e_event_sig_proposal_decline_by_participant
  | .e_event_sig_proposal_canceled_participant | .e_event_sig_proposal_validate | .e_event_sig_proposal_set_validated
  | .e_event_sig_proposal_canceled_timeout => .sig
  | .e_event_signing_init | .e_event_signing_start | .e_event_signing_partial_sign_received
  | .e_event_signing_partial_sign_error_received | .e_event_signing_partial_signs_await_cancel_by_timeout_internal
  | .e_event_signing_partial_signs_await_sign_cancel_by_error_internal | .e_event_signing_partial_signs_await_validate
  | .e_event_signing_partial_signs_confirmed_internal | .e_event_signing_restart => .sign
  | _ => .dkg

/-- the three tables evaluated once for all event names: every row is in the table of its event's machine -/
theorem event_table (mid : MachineId) : ∀ d ∈ (machineOf mid).events, evOwner d.name = mid := by
  cases mid <;> decide

theorem lookup_evOwner {mid : MachineId} {s : St} {e : Ev} (h : (lookup (machineOf mid) s e).isSome = true) :
    evOwner e = mid := by
  obtain ⟨tr, h⟩ := Option.isSome_iff_exists.mp h
  obtain ⟨d, hd, rfl, _⟩ := lookup_row h
  exact event_table mid d hd

theorem lookup_other_machine {m1 m2 : MachineId} {s1 s2 : St} {e : Ev}
    (h : (lookup (machineOf m1) s1 e).isSome = true) (hne : m1 ≠ m2) : lookup (machineOf m2) s2 e = none := by
  cases h2 : lookup (machineOf m2) s2 e with
  | none => rfl
  | some tr => exact absurd ((lookup_evOwner h).symm.trans (lookup_evOwner (by rw [h2]; rfl))) hne

end Dc4bcVerif.Model
