/-
  What one op of a generated `HashTreeRootWith` list does to the hasher's buffer (`runOpsAux_put…`: a field that is present
  and not empty contributes exactly its `hash_tree_root`), from `chunksOf` of at most 32 bytes and `merkleize` of one, two and
  three chunks. `Props/C17.lean` walks the three op lists with these.
-/
import Dc4bcVerif.Model.Ssz

namespace Dc4bcVerif.Model.Ssz
open Dc4bcVerif.Gen.Ssz

theorem chunksAux_nil (k : Nat) : chunksAux k [] = [] := by
  cases k <;> simp [chunksAux]

theorem chunksOf_short (b : Bytes) (h0 : b ≠ []) (h : b.length ≤ 32) : chunksOf b = [padTo32 b] := by
  unfold chunksOf
  cases hb : b with
  | nil => exact absurd hb h0
  | cons x t =>
    have hl : (x :: t).length ≤ 32 := by rw [← hb]; exact h
    simp only [List.length_cons, chunksAux, List.isEmpty_cons, Bool.false_eq_true, ↓reduceIte]
    have ht : (x :: t).take 32 = x :: t := List.take_of_length_le hl
    have hd : (x :: t).drop 32 = [] := List.drop_of_length_le hl
    rw [ht, hd, chunksAux_nil]

theorem padTo32_full (b : Bytes) (h : b.length = 32) : padTo32 b = b := by
  unfold padTo32; simp [h]

theorem padTo32_length (b : Bytes) (h : b.length ≤ 32) : (padTo32 b).length = 32 := by
  unfold padTo32; simp; omega

theorem merkleize_one (hash : HashFn) (c : Bytes) : merkleize hash [c] = c := by
  simp [merkleize, depth, depthAux, reduceN]

theorem merkleize_two (hash : HashFn) (a b : Bytes) : merkleize hash [a, b] = hash (a ++ b) := by
  simp [merkleize, depth, depthAux, reduceN, reduceLayer]

theorem merkleize_three (hash : HashFn) (a b c : Bytes) :
    merkleize hash [a, b, c] = hash (hash (a ++ b) ++ hash (c ++ zeroChunk)) := by
  simp [merkleize, depth, depthAux, reduceN, reduceLayer]

theorem le64_length (v : UInt64) : (le64 v).length = 8 := by simp [le64]

theorem le64_ne_nil (v : UInt64) : le64 v ≠ [] := by
  intro h; have := le64_length v; rw [h] at this; cases this

theorem runOpsAux_putUint64 (hash : HashFn) {val : String → Option SszVal} {f : String} {v : UInt64}
    (h : val f = some (.uint64 v)) (r : List HOp) (buf : List Bytes) :
    runOpsAux hash val (.putUint64 f :: r) buf = runOpsAux hash val r (buf ++ [htr hash (.uint64 v)]) := by
  have hc : chunksOf (le64 v) = [htr hash (.uint64 v)] := by
    rw [htr, chunksOf_short _ (le64_ne_nil v) (by rw [le64_length]; omega), merkleize_one]
  simp only [runOpsAux, h, hc]

theorem runOpsAux_putBytes (hash : HashFn) {val : String → Option SszVal} {f : String} {b : Bytes}
    (h : val f = some (.bytesN b)) (hb : b ≠ []) (r : List HOp) (buf : List Bytes) :
    runOpsAux hash val (.putBytes f :: r) buf = runOpsAux hash val r (buf ++ [htr hash (.bytesN b)]) := by
  simp only [runOpsAux, h]
  split
  · rw [htr, chunksOf_short b hb ‹_›, merkleize_one]
  · rfl

theorem runOpsAux_merkleize (hash : HashFn) (val : String → Option SszVal) (buf : List Bytes) :
    runOpsAux hash val [.merkleize] buf = some (merkleize hash buf) := rfl

end Dc4bcVerif.Model.Ssz
