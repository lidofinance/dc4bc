/-
  `assocSet` (Model/Payload.lean) is `Idem.touch` on pairs keyed by their first component, and reading a key,
  `(l.find? (·.1 == k)).map (·.2)` - the body of `Node.lookupS` and of `C03.assocGet` -, is `Idem.get` followed by the
  second projection. What is read after a write, and that writing twice is writing once, are the laws of `touch`.
  Core-only.
-/
import Dc4bcVerif.Model.Payload
import Dc4bcVerif.Lemmas.Idem

namespace Dc4bcVerif.Model
open Dc4bcVerif.Idem

theorem assocSet_eq_touch {β : Type} (l : List (String × β)) (k : String) (f : Option β → β) :
    assocSet l k (f ((get Prod.fst l k).map Prod.snd)) = touch Prod.fst l k (fun o => (k, f (o.map Prod.snd))) := by
  induction l with
  | nil => rfl
  | cons a t ih =>
    obtain ⟨k', v'⟩ := a
    rw [get_cons]
    by_cases h : k' = k
    · rw [if_pos h, touch_cons_pos Prod.fst (k', v') t k _ (beq_iff_eq.mpr h), assocSet, if_pos (beq_iff_eq.mpr h)]
    · rw [if_neg h, touch_cons_neg Prod.fst (k', v') t k _ (fun e => h (beq_iff_eq.mp e)), assocSet,
        if_neg (fun e => h (beq_iff_eq.mp e)), ih]

theorem get_assocSet {β : Type} (l : List (String × β)) (k k' : String) (v : β) :
    (get Prod.fst (assocSet l k v) k').map Prod.snd = if k = k' then some v else (get Prod.fst l k').map Prod.snd := by
  rw [assocSet_eq_touch l k fun _ => v, get_touch Prod.fst l k k' _ fun _ => rfl]
  split <;> rfl

theorem assocSet_idem {β : Type} (l : List (String × β)) (k : String) (v : β) : assocSet (assocSet l k v) k v = assocSet l k v := by
  rw [assocSet_eq_touch l k fun _ => v, assocSet_eq_touch _ k fun _ => v, touch_touch_same Prod.fst l k _ _ fun _ => rfl]

end Dc4bcVerif.Model
