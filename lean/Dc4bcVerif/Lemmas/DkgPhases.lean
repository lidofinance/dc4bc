/-
  The commits, deals and responses phases of the key-generation machine. The three share one pair of
  callback shapes in the model (`dkgReceived`, `dkgValidate`), so one step of a phase is proved once,
  for a `DkgPhase`: the states, events, callbacks and statuses of a phase together with the rows of the
  generated table it rests on. The three phases are its instances. At the end: the hand-over
  `event_dkg_init_process` that enters the commits phase.
-/
import Dc4bcVerif.Lemmas.SigPhase

namespace Dc4bcVerif.Model
open Dc4bcVerif.Gen

theorem allIn_any_false {dc : DkgConf} {a b c : Nat} (h : allIn dc a b) (ha : c ≠ a) (hb : c ≠ b) :
    dc.quorum.any (·.status == c) = false := by
  rw [List.any_eq_false]
  intro q hq
  rcases h q hq with h' | h' <;> simp [h', Ne.symm ha, Ne.symm hb]

theorem dkgConfError_outEvent (e : Ev) (p : Payload) (a : Arg) :
    (runAction .dkg_actionConfirmationError e p a).outEvent = none := by
  rcases dkgConfError_cases e p a with h | ⟨_, h⟩ | ⟨pid, err, ts, dc, part, awaitSt, errSt, _, _, _, _, _, h⟩ <;>
    exact congrArg ActOut.outEvent h

theorem dkg_error_outcome {sAwait sCancErr : St} {eErr : Ev} {p : Payload} {a : Arg}
    (hl : lookup dkgMachine sAwait eErr = some ⟨eErr, sCancErr, false, false, 0⟩)
    (hcb : callbackOf dkgMachine eErr = some .dkg_actionConfirmationError) (hau : autoLookup dkgMachine sCancErr 2 = none)
    (hok : (doEvent dkgMachine runAction sAwait p eErr a).res = .ok) :
    (doEvent dkgMachine runAction sAwait p eErr a).state = sCancErr := by
  obtain ⟨-, hdo⟩ := doEvent_std_ok hl rfl (no_before_auto .dkg sAwait) hcb hok
  rw [hdo, doTrAfter_plain (s1 := sCancErr) (by rw [dkgConfError_outEvent]; exact setState_of_lookup hl) hau]

/-- a commits / deals / responses phase: its states, events, callbacks and statuses, its invariant, and the rows of the generated
table and the two equations of `runAction` that the one proof of a step rests on -/
structure DkgPhase where
  (sAwait sNext sCancErr sCancTo : St)
  (eOk eErr eVal eDone eTo eErrInt : Ev)
  (cbOk cbVal : ActionId)
  /-- the statuses of a participant: awaited, delivered, reported an error; and awaited in the next phase -/
  (await ok err next : Nat)
  arg : Int → Bytes → Time → Arg
  /-- the invariant of the phase — everybody is either still awaited or has delivered, and somebody is still awaited — under
  the name `phaseInv` and the property files use (`CommitsInv`, `DealsInv`, `ResponsesInv`); `inv_iff` is all the generic proofs
  know of it -/
  Inv : Payload → DkgConf → Prop
  inv_iff : ∀ p dc, Inv p dc ↔ p.dkg = some dc ∧ allIn dc await ok ∧ cntDkg dc ok < dc.quorum.length
  statuses : await ≠ ok ∧ err ≠ await ∧ err ≠ ok
  lookup_ok : lookup dkgMachine sAwait eOk = some ⟨eOk, sAwait, false, false, 0⟩
  lookup_err : lookup dkgMachine sAwait eErr = some ⟨eErr, sCancErr, false, false, 0⟩
  pub : publicFrom dkgMachine sAwait = [eOk, eErr]
  cb_ok : callbackOf dkgMachine eOk = some cbOk
  cb_err : callbackOf dkgMachine eErr = some .dkg_actionConfirmationError
  cb_val : callbackOf dkgMachine eVal = some cbVal
  auto : autoLookup dkgMachine sAwait 2 = some ⟨eVal, sAwait, true, true, 2⟩
  auto_cancerr : autoLookup dkgMachine sCancErr 2 = none
  set_val : setState dkgMachine sAwait eVal = some sAwait
  set_done : setState dkgMachine sAwait eDone = some sNext
  set_to : setState dkgMachine sAwait eTo = some sCancTo
  run_ok : ∀ a, (∀ e p, runAction cbOk e p a = aErr p) ∨ ∃ pid data ts upd, a = arg pid data ts ∧
    ∀ e p, runAction cbOk e p a = dkgReceived p pid ts data.isEmpty await ok upd
  run_val : ∃ mkResp, ∀ e p a, runAction cbVal e p a = dkgValidate p err ok next eTo eErrInt eDone mkResp

namespace DkgPhase
variable (ph : DkgPhase)

theorem after (tr : Tr) (cur : St) (p : Payload) (o : AOut) (a : Arg)
    (hs : setState dkgMachine cur (o.outEvent.getD tr.event) = some ph.sAwait) :
    doTrAfter dkgMachine runAction tr (noBefore cur p) o a =
      autoTail dkgMachine ph.sAwait ph.eVal o (runAction ph.cbVal ph.eVal o.payload a) :=
  doTrAfter_auto hs ph.auto ph.cb_val

theorem after_cases (o : AOut) (a : Arg) (dc : DkgConf) (hd : o.payload.dkg = some dc)
    (hne : dc.quorum.any (·.status == ph.err) = false) :
    let out := autoTail dkgMachine ph.sAwait ph.eVal o (runAction ph.cbVal ph.eVal o.payload a)
    (dc.expiresAt < dc.updatedAt ∧ out.state = ph.sCancTo) ∨
    (¬ dc.expiresAt < dc.updatedAt ∧ cntDkg dc ph.ok < dc.quorum.length ∧ out.state = ph.sAwait ∧ out.payload = o.payload) ∨
    (¬ dc.expiresAt < dc.updatedAt ∧ ¬ cntDkg dc ph.ok < dc.quorum.length ∧ out.state = ph.sNext ∧
      out.payload = { o.payload with dkg := some { dc with quorum := dc.quorum.map (fun q => { q with status := ph.next }) } }) := by
  obtain ⟨mkResp, hv⟩ := ph.run_val
  dsimp only
  rw [hv]
  rcases dkgValidate_cases o.payload ph.err ph.ok ph.next ph.eTo ph.eErrInt ph.eDone mkResp with
    ⟨hn, _⟩ | ⟨dc', hd', ⟨h1, h⟩ | ⟨_, h2, _⟩ | ⟨h1, _, h3, h⟩ | ⟨h1, _, h3, resp, h⟩⟩
  · rw [hd] at hn; cases hn
  all_goals (rw [hd] at hd'; cases hd')
  · rw [h, aOk, autoTail_ok (by exact ph.set_to)]; exact .inl ⟨h1, rfl⟩
  · rw [hne] at h2; cases h2
  · rw [h, aOk, autoTail_ok (by exact ph.set_val)]; exact .inr (.inl ⟨h1, h3, rfl, rfl⟩)
  · rw [h, aOk, autoTail_ok (by exact ph.set_done)]; exact .inr (.inr ⟨h1, h3, rfl, rfl⟩)

/-- **unanimity, one phase.** In a phase an accepted contribution comes from a participant that
was still awaited (so nobody contributes twice); the round moves to the next phase exactly when
that was the last participant missing, every other one having delivered; a contribution stamped
after the deadline cancels the round; otherwise the round keeps waiting. -/
theorem received_outcome (p : Payload) (a : Arg) (dc : DkgConf) (hinv : ph.Inv p dc)
    (hok : (doEvent dkgMachine runAction ph.sAwait p ph.eOk a).res = .ok) :
    let out := doEvent dkgMachine runAction ph.sAwait p ph.eOk a
    ∃ pid data ts part, a = ph.arg pid data ts ∧ getAt dc.quorum pid = some part ∧ part.status = ph.await ∧
    ((dc.expiresAt < ts ∧ out.state = ph.sCancTo) ∨
     (¬ dc.expiresAt < ts ∧ cntDkg dc ph.ok + 1 = dc.quorum.length ∧ out.state = ph.sNext ∧
        ∃ dc', out.payload.dkg = some dc' ∧ dc'.quorum.length = dc.quorum.length ∧ (∀ q ∈ dc'.quorum, q.status = ph.next)) ∨
     (¬ dc.expiresAt < ts ∧ cntDkg dc ph.ok + 1 < dc.quorum.length ∧ out.state = ph.sAwait ∧
        ∃ dc', ph.Inv out.payload dc' ∧ cntDkg dc' ph.ok = cntDkg dc ph.ok + 1 ∧ dc'.quorum.length = dc.quorum.length)) := by
  obtain ⟨hdkg, hall, hopen⟩ := (ph.inv_iff p dc).mp hinv
  obtain ⟨hawait, herr1, herr2⟩ := ph.statuses
  obtain ⟨hres, hdo⟩ := doEvent_std_ok ph.lookup_ok rfl (no_before_auto .dkg ph.sAwait) ph.cb_ok hok
  intro out
  have hout : out = _ := hdo
  clear_value out
  -- the callback: the contribution of a participant still awaited is recorded
  rcases ph.run_ok a with h | ⟨pid, data, ts, upd, ha, h⟩
  · rw [h] at hres; cases hres
  rw [h] at hres hout
  rcases dkgReceived_cases p pid ts data.isEmpty ph.await ph.ok upd with
    h | ⟨_, h⟩ | ⟨dc0, part, hd0, hg, hst, _, _, h⟩ <;> rw [h] at hres hout
  · cases hres
  · cases hres
  rw [hdkg] at hd0; cases hd0
  refine ⟨pid, data, ts, part, ha, hg, hst, ?_⟩
  -- name the updated key-generation data: the verdict lemma is taken at a variable, so that `rw [← hout]` matches
  generalize hdc' : ({ dc with quorum := setAt dc.quorum pid { upd part with status := ph.ok, updatedAt := ts }, updatedAt := ts } :
    DkgConf) = dc' at hout
  obtain ⟨hlen, hc', hall'⟩ := cntDkg_step ph.await ph.ok (dc' := dc') hg hawait hst rfl hall (by rw [← hdc'])
  have hexp : (dc'.expiresAt < dc'.updatedAt) ↔ (dc.expiresAt < ts) := by rw [← hdc']
  -- the validator: time-out, keep waiting, or everybody has delivered
  rw [ph.after _ _ _ _ _ (by exact setState_of_lookup ph.lookup_ok)] at hout
  have hcases := ph.after_cases (aOk { p with dkg := some dc' }) a dc' rfl (allIn_any_false hall' herr1 herr2)
  rw [← hout, hc', hlen, hexp] at hcases
  rcases hcases with ⟨he, hs⟩ | ⟨he, h3, hs, hp⟩ | ⟨he, h3, hs, hp⟩
  · exact .inl ⟨he, hs⟩
  · refine .inr (.inr ⟨he, h3, hs, dc', (ph.inv_iff _ _).mpr ?_, hc', hlen⟩)
    rw [hp]
    exact ⟨rfl, hall', by rw [hc', hlen]; exact h3⟩
  · refine .inr (.inl ⟨he, by omega, hs, _, by rw [hp], by simp [hlen], ?_⟩)
    intro q hq
    obtain ⟨q0, _, rfl⟩ := List.mem_map.mp hq
    rfl

theorem inv_of_all_await (p : Payload) (dc : DkgConf) (hd : p.dkg = some dc) (hne : dc.quorum ≠ [])
    (hall : ∀ q ∈ dc.quorum, q.status = ph.await) : ph.Inv p dc :=
  (ph.inv_iff p dc).mpr ⟨hd, quorum_start DkgPart.status ph.statuses.1 hall hne⟩

/-- **an error report cancels.** An accepted error report moves the round to the phase's
`canceled_by_error` state (from which `C05.cancel_absorbing` shows there is no way back). -/
theorem error_outcome (p : Payload) (a : Arg)
    (hok : (doEvent dkgMachine runAction ph.sAwait p ph.eErr a).res = .ok) :
    (doEvent dkgMachine runAction ph.sAwait p ph.eErr a).state = ph.sCancErr :=
  dkg_error_outcome ph.lookup_err ph.cb_err ph.auto_cancerr hok

end DkgPhase

abbrev sCommitsAwait : St := .s_state_dkg_commits_await_confirmations
abbrev sCommitsNext : St := .s_state_dkg_deals_await_confirmations
abbrev sCommitsCancErr : St := .s_state_dkg_commits_await_canceled_by_error
abbrev sCommitsCancTo : St := .s_state_dkg_commits_await_canceled_by_timeout
abbrev eCommitsOk : Ev := .e_event_dkg_commit_confirm_received
abbrev eCommitsErr : Ev := .e_event_dkg_commit_confirm_canceled_by_error
abbrev eCommitsVal : Ev := .e_event_dkg_commits_validate_internal

structure CommitsInv (p : Payload) (dc : DkgConf) : Prop where
  hdkg : p.dkg = some dc
  hall : allIn dc 0 1
  hopen : cntDkg dc 1 < dc.quorum.length

def commitsPhase : DkgPhase where
  sAwait := sCommitsAwait
  sNext := sCommitsNext
  sCancErr := sCommitsCancErr
  sCancTo := sCommitsCancTo
  eOk := eCommitsOk
  eErr := eCommitsErr
  eVal := eCommitsVal
  eDone := .e_event_dkg_commits_confirmed_internal
  eTo := .e_event_dkg_commits_confirm_canceled_by_timeout_internal
  eErrInt := .e_event_dkg_commits_confirm_canceled_by_error_internal
  cbOk := .dkg_actionCommitConfirmationReceived
  cbVal := .dkg_actionValidateDkgProposalAwaitCommits
  await := 0
  ok := 1
  err := 2
  next := 3
  arg := .commit
  Inv := CommitsInv
  inv_iff _ _ := ⟨fun h => ⟨h.hdkg, h.hall, h.hopen⟩, fun h => ⟨h.1, h.2.1, h.2.2⟩⟩
  statuses := by decide
  lookup_ok := by decide
  lookup_err := by decide
  pub := by decide
  cb_ok := by decide
  cb_err := by decide
  cb_val := by decide
  auto := by decide
  auto_cancerr := by decide
  set_val := by decide
  set_done := by decide
  set_to := by decide
  run_ok a := by
    cases a with
    | commit pid data ts => exact .inr ⟨pid, data, ts, _, rfl, fun _ _ => rfl⟩
    | _ => exact .inl fun _ _ => rfl
  run_val := ⟨_, fun e p a => show dkg_actionValidateDkgProposalAwaitCommits e p a = _ from rfl⟩

theorem runAction_commits_ok : runAction .dkg_actionCommitConfirmationReceived = dkg_actionCommitConfirmationReceived := rfl
theorem runAction_commits_val : runAction .dkg_actionValidateDkgProposalAwaitCommits = dkg_actionValidateDkgProposalAwaitCommits := rfl

def commitsAfter (o : AOut) (a : Arg) : Out :=
  autoTail dkgMachine sCommitsAwait eCommitsVal o (dkg_actionValidateDkgProposalAwaitCommits eCommitsVal o.payload a)

theorem commits_after (tr : Tr) (cur : St) (p : Payload) (o : AOut) (a : Arg)
    (hs : setState dkgMachine cur (o.outEvent.getD tr.event) = some sCommitsAwait) :
    doTrAfter dkgMachine runAction tr (noBefore cur p) o a = commitsAfter o a :=
  commitsPhase.after tr cur p o a hs

theorem commits_received_outcome (p : Payload) (a : Arg) (dc : DkgConf) (hinv : CommitsInv p dc)
    (hok : (doEvent dkgMachine runAction sCommitsAwait p eCommitsOk a).res = .ok) :
    let out := doEvent dkgMachine runAction sCommitsAwait p eCommitsOk a
    ∃ pid data ts part, a = .commit pid data ts ∧ getAt dc.quorum pid = some part ∧ part.status = 0 ∧
    ((dc.expiresAt < ts ∧ out.state = sCommitsCancTo) ∨
     (¬ dc.expiresAt < ts ∧ cntDkg dc 1 + 1 = dc.quorum.length ∧ out.state = sCommitsNext ∧
        ∃ dc', out.payload.dkg = some dc' ∧ dc'.quorum.length = dc.quorum.length ∧ (∀ q ∈ dc'.quorum, q.status = 3)) ∨
     (¬ dc.expiresAt < ts ∧ cntDkg dc 1 + 1 < dc.quorum.length ∧ out.state = sCommitsAwait ∧
        ∃ dc', CommitsInv out.payload dc' ∧ cntDkg dc' 1 = cntDkg dc 1 + 1 ∧ dc'.quorum.length = dc.quorum.length)) :=
  commitsPhase.received_outcome p a dc hinv hok

theorem commits_error_outcome (p : Payload) (a : Arg)
    (hok : (doEvent dkgMachine runAction sCommitsAwait p eCommitsErr a).res = .ok) :
    (doEvent dkgMachine runAction sCommitsAwait p eCommitsErr a).state = sCommitsCancErr :=
  commitsPhase.error_outcome p a hok

abbrev sDealsAwait : St := .s_state_dkg_deals_await_confirmations
abbrev sDealsNext : St := .s_state_dkg_responses_await_confirmations
abbrev sDealsCancErr : St := .s_state_dkg_deals_await_canceled_by_error
abbrev sDealsCancTo : St := .s_state_dkg_deals_await_canceled_by_timeout
abbrev eDealsOk : Ev := .e_event_dkg_deal_confirm_received
abbrev eDealsErr : Ev := .e_event_dkg_deal_confirm_canceled_by_error

structure DealsInv (p : Payload) (dc : DkgConf) : Prop where
  hdkg : p.dkg = some dc
  hall : allIn dc 3 4
  hopen : cntDkg dc 4 < dc.quorum.length

def dealsPhase : DkgPhase where
  sAwait := sDealsAwait
  sNext := sDealsNext
  sCancErr := sDealsCancErr
  sCancTo := sDealsCancTo
  eOk := eDealsOk
  eErr := eDealsErr
  eVal := .e_event_dkg_deals_validate_internal
  eDone := .e_event_dkg_deals_confirmed_internal
  eTo := .e_event_dkg_deals_confirm_canceled_by_timeout_internal
  eErrInt := .e_event_dkg_deals_confirm_canceled_by_error_internal
  cbOk := .dkg_actionDealConfirmationReceived
  cbVal := .dkg_actionValidateDkgProposalAwaitDeals
  await := 3
  ok := 4
  err := 5
  next := 6
  arg := .deal
  Inv := DealsInv
  inv_iff _ _ := ⟨fun h => ⟨h.hdkg, h.hall, h.hopen⟩, fun h => ⟨h.1, h.2.1, h.2.2⟩⟩
  statuses := by decide
  lookup_ok := by decide
  lookup_err := by decide
  pub := by decide
  cb_ok := by decide
  cb_err := by decide
  cb_val := by decide
  auto := by decide
  auto_cancerr := by decide
  set_val := by decide
  set_done := by decide
  set_to := by decide
  run_ok a := by
    cases a with
    | deal pid data ts => exact .inr ⟨pid, data, ts, _, rfl, fun _ _ => rfl⟩
    | _ => exact .inl fun _ _ => rfl
  run_val := ⟨_, fun e p a => show dkg_actionValidateDkgProposalAwaitDeals e p a = _ from rfl⟩

theorem runAction_deals_ok : runAction .dkg_actionDealConfirmationReceived = dkg_actionDealConfirmationReceived := rfl
theorem runAction_deals_val : runAction .dkg_actionValidateDkgProposalAwaitDeals = dkg_actionValidateDkgProposalAwaitDeals := rfl

theorem deals_received_outcome (p : Payload) (a : Arg) (dc : DkgConf) (hinv : DealsInv p dc)
    (hok : (doEvent dkgMachine runAction sDealsAwait p eDealsOk a).res = .ok) :
    let out := doEvent dkgMachine runAction sDealsAwait p eDealsOk a
    ∃ pid data ts part, a = .deal pid data ts ∧ getAt dc.quorum pid = some part ∧ part.status = 3 ∧
    ((dc.expiresAt < ts ∧ out.state = sDealsCancTo) ∨
     (¬ dc.expiresAt < ts ∧ cntDkg dc 4 + 1 = dc.quorum.length ∧ out.state = sDealsNext ∧
        ∃ dc', out.payload.dkg = some dc' ∧ dc'.quorum.length = dc.quorum.length ∧ (∀ q ∈ dc'.quorum, q.status = 6)) ∨
     (¬ dc.expiresAt < ts ∧ cntDkg dc 4 + 1 < dc.quorum.length ∧ out.state = sDealsAwait ∧
        ∃ dc', DealsInv out.payload dc' ∧ cntDkg dc' 4 = cntDkg dc 4 + 1 ∧ dc'.quorum.length = dc.quorum.length)) :=
  dealsPhase.received_outcome p a dc hinv hok

theorem deals_error_outcome (p : Payload) (a : Arg)
    (hok : (doEvent dkgMachine runAction sDealsAwait p eDealsErr a).res = .ok) :
    (doEvent dkgMachine runAction sDealsAwait p eDealsErr a).state = sDealsCancErr :=
  dealsPhase.error_outcome p a hok

abbrev sResponsesAwait : St := .s_state_dkg_responses_await_confirmations
abbrev sResponsesNext : St := .s_state_dkg_master_key_await_confirmations
abbrev sResponsesCancErr : St := .s_state_dkg_responses_await_canceled_by_error
abbrev sResponsesCancTo : St := .s_state_dkg_responses_sending_canceled_by_timeout
abbrev eResponsesOk : Ev := .e_event_dkg_response_confirm_received
abbrev eResponsesErr : Ev := .e_event_dkg_response_confirm_canceled_by_error

structure ResponsesInv (p : Payload) (dc : DkgConf) : Prop where
  hdkg : p.dkg = some dc
  hall : allIn dc 6 7
  hopen : cntDkg dc 7 < dc.quorum.length

def responsesPhase : DkgPhase where
  sAwait := sResponsesAwait
  sNext := sResponsesNext
  sCancErr := sResponsesCancErr
  sCancTo := sResponsesCancTo
  eOk := eResponsesOk
  eErr := eResponsesErr
  eVal := .e_event_dkg_responses_validate_internal
  eDone := .e_event_dkg_responses_confirmed_internal
  eTo := .e_event_dkg_response_confirm_canceled_by_timeout_internal
  eErrInt := .e_event_dkg_response_confirm_canceled_by_error_internal
  cbOk := .dkg_actionResponseConfirmationReceived
  cbVal := .dkg_actionValidateDkgProposalAwaitResponses
  await := 6
  ok := 7
  err := 8
  next := 9
  arg := .response
  Inv := ResponsesInv
  inv_iff _ _ := ⟨fun h => ⟨h.hdkg, h.hall, h.hopen⟩, fun h => ⟨h.1, h.2.1, h.2.2⟩⟩
  statuses := by decide
  lookup_ok := by decide
  lookup_err := by decide
  pub := by decide
  cb_ok := by decide
  cb_err := by decide
  cb_val := by decide
  auto := by decide
  auto_cancerr := by decide
  set_val := by decide
  set_done := by decide
  set_to := by decide
  run_ok a := by
    cases a with
    | response pid data ts => exact .inr ⟨pid, data, ts, _, rfl, fun _ _ => rfl⟩
    | _ => exact .inl fun _ _ => rfl
  run_val := ⟨_, fun e p a => show dkg_actionValidateDkgProposalAwaitResponses e p a = _ from rfl⟩

theorem runAction_responses_ok : runAction .dkg_actionResponseConfirmationReceived = dkg_actionResponseConfirmationReceived := rfl
theorem runAction_responses_val : runAction .dkg_actionValidateDkgProposalAwaitResponses = dkg_actionValidateDkgProposalAwaitResponses := rfl

theorem responses_received_outcome (p : Payload) (a : Arg) (dc : DkgConf) (hinv : ResponsesInv p dc)
    (hok : (doEvent dkgMachine runAction sResponsesAwait p eResponsesOk a).res = .ok) :
    let out := doEvent dkgMachine runAction sResponsesAwait p eResponsesOk a
    ∃ pid data ts part, a = .response pid data ts ∧ getAt dc.quorum pid = some part ∧ part.status = 6 ∧
    ((dc.expiresAt < ts ∧ out.state = sResponsesCancTo) ∨
     (¬ dc.expiresAt < ts ∧ cntDkg dc 7 + 1 = dc.quorum.length ∧ out.state = sResponsesNext ∧
        ∃ dc', out.payload.dkg = some dc' ∧ dc'.quorum.length = dc.quorum.length ∧ (∀ q ∈ dc'.quorum, q.status = 9)) ∨
     (¬ dc.expiresAt < ts ∧ cntDkg dc 7 + 1 < dc.quorum.length ∧ out.state = sResponsesAwait ∧
        ∃ dc', ResponsesInv out.payload dc' ∧ cntDkg dc' 7 = cntDkg dc 7 + 1 ∧ dc'.quorum.length = dc.quorum.length)) :=
  responsesPhase.received_outcome p a dc hinv hok

theorem responses_error_outcome (p : Payload) (a : Arg)
    (hok : (doEvent dkgMachine runAction sResponsesAwait p eResponsesErr a).res = .ok) :
    (doEvent dkgMachine runAction sResponsesAwait p eResponsesErr a).state = sResponsesCancErr :=
  responsesPhase.error_outcome p a hok

abbrev eDkgInit : Ev := .e_event_dkg_init_process

theorem dkginit_lookup : lookup dkgMachine sSigCollected eDkgInit = some ⟨eDkgInit, sCommitsAwait, false, false, 0⟩ := by decide
theorem dkginit_cb : callbackOf dkgMachine eDkgInit = some .dkg_actionInitDKGProposal := by decide
theorem dkg_collected_public : publicFrom dkgMachine sSigCollected = [eDkgInit] := by decide

theorem runAction_dkginit : runAction .dkg_actionInitDKGProposal = dkg_actionInitDKGProposal := rfl

theorem dkg_init_spec (p : Payload) (a : Arg) (hdkg : p.dkg = none) (sc : SigConf) (hs : p.sig = some sc) :
    let o := dkg_actionInitDKGProposal eDkgInit p a
    (o.res = .err → o.payload = p) ∧
    (o.res = .ok → o.outEvent = some eDkgInit ∧ ∃ ts dc, a = .default ts ∧
      o.payload = { p with dkg := some dc } ∧ dc.quorum.length = sc.quorum.length ∧ sc.quorum ≠ [] ∧
      dc.updatedAt = zeroTime ∧ (∀ q ∈ dc.quorum, q.status = 0)) := by
  intro o
  subst o
  fun_cases dkg_actionInitDKGProposal eDkgInit p a
  case case1 hd => rw [hdkg] at hd; cases hd  -- key-generation data there already
  case case4 _ ts sc' hs' _ _ _ q0 hh _ =>  -- accepted
    cases hs.symm.trans hs'
    refine ⟨nofun, fun _ => ⟨rfl, ts, _, rfl, rfl, List.length_map _, fun h => (by rw [h] at hh; cases hh), rfl, ?_⟩⟩
    intro q hq
    obtain ⟨e, _, rfl⟩ := List.mem_map.mp hq
    rfl
  case case5 => exact ⟨fun _ => rfl, nofun⟩  -- not a `.default` argument
  all_goals exact ⟨nofun, nofun⟩

/-- **entering the commits phase.** The hand-over event applied to a round whose invitations were all
confirmed starts the commits phase with everybody awaited. -/
theorem dkg_init_outcome (p : Payload) (a : Arg) (hdkg : p.dkg = none) (sc : SigConf) (hs : p.sig = some sc)
    (hok : (doEvent dkgMachine runAction sSigCollected p eDkgInit a).res = .ok) :
    let out := doEvent dkgMachine runAction sSigCollected p eDkgInit a
    out.state = sCommitsCancTo ∨ (out.state = sCommitsAwait ∧ ∃ dc, CommitsInv out.payload dc ∧ dc.quorum.length = sc.quorum.length) := by
  obtain ⟨hres, hdo⟩ := doEvent_std_ok dkginit_lookup rfl (no_before_auto .dkg sSigCollected) dkginit_cb hok
  rw [runAction_dkginit] at hres hdo
  obtain ⟨-, hacc⟩ := dkg_init_spec p a hdkg sc hs
  obtain ⟨hout, ts, dc, -, hp, hlen, hne, -, hall⟩ := hacc hres
  intro out
  have ho : out = _ := hdo.trans (commitsPhase.after _ _ _ _ _ (by rw [hout]; exact setState_of_lookup dkginit_lookup))
  clear_value out
  generalize dkg_actionInitDKGProposal eDkgInit p a = o at ho hp
  have hd' : o.payload.dkg = some dc := by rw [hp]
  have hinv : CommitsInv o.payload dc := commitsPhase.inv_of_all_await o.payload dc hd'
    (fun h => hne (List.length_eq_zero_iff.mp (by rw [← hlen, h]; rfl))) hall
  have hcases := commitsPhase.after_cases o a dc hd' (allIn_any_false hinv.hall (by decide) (by decide))
  rw [← ho] at hcases
  rcases hcases with ⟨_, hst⟩ | ⟨_, _, hst, hp⟩ | ⟨_, h3, _⟩
  · exact .inl hst
  · exact .inr ⟨hst, dc, hp ▸ hinv, hlen⟩
  · exact absurd hinv.hopen h3

end Dc4bcVerif.Model
