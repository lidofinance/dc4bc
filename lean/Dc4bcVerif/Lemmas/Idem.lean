/-
  Idempotence of keyed-list folds.

  The node's stores (signature repository: batch ↦ message ↦ entries per user) are association lists that are only
  ever touched through "replace the first element with this key, or append": `assocSet` and `addEntry`. For such
  lists, folding a sequence of updates twice gives the same LIST (not just the same lookups) as folding it once —
  provided the update of a single slot is itself idempotent (`F_idem`). The idea: the fold goes through the list element by
  element (`F_cons`): the updates with the head's key all land in the head, the others never see it. The three levels of
  the signature store are instances, innermost first (`Lemmas/SigStoreIdem.lean`: a board message handled a second time
  after a crash leaves the signature store exactly as it was).

  No well-formedness (unique keys) is assumed: only first matches are ever read or written, later duplicates are inert.
-/

namespace Dc4bcVerif.Idem

variable {α X : Type}

/-- replace the first element with key `k` by `g (some old)`, or append `g none` -/
def touch (kf : α → String) (l : List α) (k : String) (g : Option α → α) : List α :=
  match l with
  | [] => [g none]
  | a :: t => if kf a == k then g (some a) :: t else a :: touch kf t k g

def get (kf : α → String) (l : List α) (k : String) : Option α := l.find? (fun a => kf a == k)

section
variable (kf : α → String)

theorem touch_cons_pos (a : α) (t : List α) (k : String) (g : Option α → α) (h : (kf a == k) = true) :
    touch kf (a :: t) k g = g (some a) :: t := by
  simp [touch, h]

theorem touch_cons_neg (a : α) (t : List α) (k : String) (g : Option α → α) (h : ¬ (kf a == k) = true) :
    touch kf (a :: t) k g = a :: touch kf t k g := by
  simp [touch, h]

theorem touch_touch_same (l : List α) (k : String) (g1 g2 : Option α → α) (h1 : ∀ o, kf (g1 o) = k) :
    touch kf (touch kf l k g1) k g2 = touch kf l k (fun o => g2 (some (g1 o))) := by
  induction l with
  | nil => simp [touch, h1]
  | cons a t ih =>
    by_cases h : (kf a == k) = true
    · rw [touch_cons_pos kf a t k g1 h, touch_cons_pos kf a t k _ h, touch_cons_pos kf _ t k g2 (by simp [h1])]
    · rw [touch_cons_neg kf a t k g1 h, touch_cons_neg kf a t k _ h, touch_cons_neg kf a _ k g2 h, ih]

theorem get_cons (a : α) (t : List α) (k : String) : get kf (a :: t) k = if kf a = k then some a else get kf t k := by
  unfold get
  by_cases h : kf a = k
  · rw [if_pos h]; exact List.find?_cons_of_pos (beq_iff_eq.mpr h)
  · rw [if_neg h]; exact List.find?_cons_of_neg (fun e => h (beq_iff_eq.mp e))

theorem get_touch (l : List α) (k k' : String) (g : Option α → α) (h1 : ∀ o, kf (g o) = k) :
    get kf (touch kf l k g) k' = if k = k' then some (g (get kf l k)) else get kf l k' := by
  fun_induction touch kf l k g
  case case1 => rw [get_cons, h1]; rfl
  case case2 a t h =>
    rw [get_cons, get_cons, get_cons, h1, if_pos (beq_iff_eq.mp h), beq_iff_eq.mp h]
    split <;> rfl
  case case3 a t h ih =>
    rw [get_cons, get_cons, get_cons, ih, if_neg (fun e => h (beq_iff_eq.mpr e))]
    by_cases h1 : kf a = k'
    · rw [if_pos h1, if_pos h1, if_neg (fun e => h (beq_iff_eq.mpr (h1.trans e.symm)))]
    · rw [if_neg h1, if_neg h1]

theorem touch_id (l : List α) (k : String) (g : Option α → α) (a : α) (hg : get kf l k = some a) (hga : g (some a) = a) :
    touch kf l k g = l := by
  induction l with
  | nil => simp [get] at hg
  | cons b t ih =>
    rw [get_cons] at hg
    by_cases h : (kf b == k) = true
    · rw [if_pos (beq_iff_eq.mp h)] at hg
      rw [touch_cons_pos kf b t k g h, Option.some.inj hg, hga]
    · rw [if_neg fun e => h (beq_iff_eq.mpr e)] at hg
      rw [touch_cons_neg kf b t k g h, ih hg]

end

section
variable (kf : α → String) (key : X → String) (upd : Option α → X → α)

def step (l : List α) (x : X) : List α := touch kf l (key x) (fun o => upd o x)

def F (l : List α) (xs : List X) : List α := xs.foldl (step kf key upd) l

/-- one slot of the list (`none`: not there yet) after the updates `ys`, all of its key -/
def sf (o : Option α) (ys : List X) : Option α := ys.foldl (fun o x => some (upd o x)) o

/-- `sf` for a slot that is filled: the value it holds afterwards (`sf_some`) -/
def sfv (a : α) (ys : List X) : α := ys.foldl (fun a x => upd (some a) x) a

theorem sf_some (a : α) (ys : List X) : sf upd (some a) ys = some (sfv upd a ys) :=
  List.foldl_hom some (H := fun _ _ => rfl)

variable (H1 : ∀ o x, kf (upd o x) = key x)
include H1

theorem kf_sfv (a : α) (ys : List X) (h : ∀ y ∈ ys, key y = kf a) : kf (sfv upd a ys) = kf a := by
  induction ys generalizing a with
  | nil => rfl
  | cons y t ih =>
    have hy : kf (upd (some a) y) = kf a := (H1 _ y).trans (h y List.mem_cons_self)
    exact (ih _ (fun z hz => (h z (List.mem_cons_of_mem _ hz)).trans hy.symm)).trans hy

/-- **The fold, by the head of the list**: the elements with the head's key all land in the head, the others never see it. -/
theorem F_cons (xs : List X) (a : α) (t : List α) :
    F kf key upd (a :: t) xs =
      sfv upd a (xs.filter (fun x => key x == kf a)) :: F kf key upd t (xs.filter (fun x => !(key x == kf a))) := by
  induction xs generalizing a t with
  | nil => rfl
  | cons x r ih =>
    show F kf key upd (step kf key upd (a :: t) x) r = _
    by_cases hx : (key x == kf a) = true
    · have hk : (kf a == key x) = true := by rw [beq_iff_eq] at hx ⊢; exact hx.symm
      have hka : kf (upd (some a) x) = kf a := (H1 _ x).trans (beq_iff_eq.mp hx)
      unfold step
      rw [touch_cons_pos kf a t _ _ hk, ih, hka]
      simp only [List.filter_cons, hx, ↓reduceIte, Bool.not_true, Bool.false_eq_true]
      rfl
    · have hk : ¬ (kf a == key x) = true := by rw [beq_iff_eq] at hx ⊢; exact fun e => hx e.symm
      unfold step
      rw [touch_cons_neg kf a t _ _ hk, ih]
      simp only [List.filter_cons, hx, Bool.false_eq_true, ↓reduceIte, Bool.not_false]
      rfl

theorem present_F (xs : List X) (l : List α) (k : String) (h : (get kf l k).isSome = true) :
    (get kf (F kf key upd l xs) k).isSome = true := by
  induction l generalizing xs with
  | nil => simp [get] at h
  | cons a t ih =>
    rw [F_cons kf key upd H1]
    have hka := kf_sfv kf key upd H1 a (xs.filter (fun x => key x == kf a)) (fun y hy => beq_iff_eq.mp (List.mem_filter.mp hy).2)
    rw [get_cons] at h ⊢
    rw [hka]
    split
    · rfl
    · rename_i hk
      rw [if_neg hk] at h
      exact ih _ h

/-- **Folding twice = folding once**, when the fold of a single slot is idempotent. -/
theorem F_idem (H2 : ∀ (k : String) (o : Option α) (ys : List X), (∀ y ∈ ys, key y = k) → sf upd (sf upd o ys) ys = sf upd o ys) :
    ∀ (n : Nat) (xs : List X), xs.length ≤ n → ∀ l, F kf key upd (F kf key upd l xs) xs = F kf key upd l xs := by
  -- a filled slot, folded once more over the elements of its key, stays as it is
  have slot : ∀ (o : Option α) (ys : List X) (b : α) (k : String), (∀ y ∈ ys, key y = k) → sf upd o ys = some b → sfv upd b ys = b := by
    intro o ys b k hys hb
    have := H2 k o ys hys
    rw [hb, sf_some] at this
    exact Option.some.inj this
  have hfil : ∀ (xs : List X) (k : String), ∀ y ∈ xs.filter (fun x => key x == k), key y = k :=
    fun xs k y hy => beq_iff_eq.mp (List.mem_filter.mp hy).2
  intro n
  induction n with
  | zero =>
    intro xs hlen l
    cases List.length_eq_zero_iff.mp (Nat.le_zero.mp hlen)
    rfl
  | succ n ih =>
    intro xs hlen l
    induction l generalizing xs with
    | cons a t ihl =>
      rw [F_cons kf key upd H1 xs a t, F_cons kf key upd H1 xs, kf_sfv kf key upd H1 a _ (hfil xs _),
        ihl _ (Nat.le_trans (List.length_filter_le _ _) hlen),
        slot (some a) _ _ (kf a) (hfil xs _) (sf_some upd a _)]
    | nil =>
      cases xs with
      | nil => rfl
      | cons x r =>
        -- the first element opens the list; then as before, and the other keys are fewer elements
        have hb : kf (upd none x) = key x := H1 none x
        have hlen' : (r.filter (fun z => !(key z == key x))).length ≤ n :=
          Nat.le_trans (List.length_filter_le _ _) (Nat.le_of_succ_le_succ hlen)
        show F kf key upd (F kf key upd [upd none x] r) (x :: r) = F kf key upd [upd none x] r
        rw [F_cons kf key upd H1 r, hb, F_cons kf key upd H1 (x :: r), kf_sfv kf key upd H1 _ _ (by rw [hb]; exact hfil r _), hb]
        simp only [List.filter_cons, beq_self_eq_true, ↓reduceIte, Bool.not_true, Bool.false_eq_true]
        rw [ih _ hlen' []]
        congr 1
        refine slot none (x :: r.filter (fun z => key z == key x)) _ (key x) ?_ (sf_some upd _ _)
        intro y hy
        rcases List.mem_cons.mp hy with rfl | hy
        · rfl
        · exact hfil r _ y hy

end

theorem F_idem_replace (kf : α → String) (l xs : List α) :
    F kf kf (fun _ x => x) (F kf kf (fun _ x => x) l xs) xs = F kf kf (fun _ x => x) l xs :=
  -- the update ignores the slot: after a non-empty `ys` the slot holds the last element, whatever it held before
  F_idem kf kf (fun _ x => x) (fun _ _ => rfl) (fun _ _ ys _ => by cases ys <;> rfl) xs.length xs (Nat.le_refl _) l

end Dc4bcVerif.Idem
